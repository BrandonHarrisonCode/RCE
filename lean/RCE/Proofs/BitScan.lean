import RCE.Proofs.Deposit
/-! What the two bit scans return, and forms of them (and of `bitIndices`, `posList`) over `Nat`, which the kernel
    evaluates quickly: it computes `Nat.log2` and `Nat.testBit` of a numeral in one step, a scan on `UInt64` in 64. -/
namespace RCE.Proofs.BitScan
open RCE RCE.Proofs.BoardBits RCE.Proofs.Deposit

theorem bsfAux_spec (b : BB) : ∀ fuel i, i + fuel = 64 → bsfAux b fuel i ≤ 64 ∧
    (∀ j, i ≤ j → j < bsfAux b fuel i → testBit b j = false) ∧ (bsfAux b fuel i < 64 → testBit b (bsfAux b fuel i) = true) := by
  intro fuel
  induction fuel with
  | zero => intro i h; unfold bsfAux; exact ⟨by omega, fun j a c => by omega, fun c => by omega⟩
  | succ n ih =>
    intro i h
    unfold bsfAux
    split
    · exact ⟨by omega, fun j a c => by omega, fun _ => ‹_›⟩
    · obtain ⟨h2, h3, h4⟩ := ih (i + 1) (by omega)
      refine ⟨h2, fun j a c => ?_, h4⟩
      by_cases e : j = i
      · subst e; simpa using ‹¬ testBit b j = true›
      · exact h3 j (by omega) c

theorem bsf_spec (y : BB) : bsf y ≤ 64 ∧ (∀ j, j < bsf y → testBit y j = false) ∧ (bsf y < 64 → testBit y (bsf y) = true) :=
  have ⟨h2, h3, h4⟩ := bsfAux_spec y 64 0 rfl
  ⟨h2, fun j c => h3 j (Nat.zero_le _) c, h4⟩

theorem bsf_lt (y : BB) (h : y ≠ 0) : bsf y < 64 :=
  Nat.lt_of_le_of_ne (bsf_spec y).1 fun e => h ((eq_zero_iff y).mpr fun i hi => (bsf_spec y).2.1 i (by omega))

theorem and_neg (y : BB) (h : y ≠ 0) : y &&& -y = bit (bsf y) := by
  obtain ⟨-, h2, h3⟩ := bsf_spec y
  have hk := bsf_lt y h
  apply eq_of_testBit
  intro i hi
  rw [testBit_and, testBit_bit _ _ hi hk, testBit_eq (-y) i hi, UInt64.toBitVec_neg, BitVec.getLsbD_neg]
  have hex : (∃ j, j < i ∧ y.toBitVec.getLsbD j = true) ↔ bsf y < i := by
    refine ⟨fun ⟨j, a, c⟩ => Nat.lt_of_not_le fun d => ?_, fun a => ⟨_, a, by rw [← testBit_eq y _ hk]; exact h3 hk⟩⟩
    rw [← testBit_eq y j (by omega), h2 j (by omega)] at c
    cases c
  simp only [← testBit_eq y i hi, decide_eq_true hi, Bool.true_and, hex]
  rcases Nat.lt_trichotomy i (bsf y) with a | a | a
  · simp [h2 i a, Nat.ne_of_lt a]
  · subst a; simp [h3 hk]
  · cases testBit y i <;> simp [a, Nat.ne_of_gt a]

def low (y : BB) : Nat := if y = 0 then 64 else Nat.log2 (y &&& -y).toNat

theorem bsf_eq (y : BB) : bsf y = low y := by
  unfold low
  split
  · subst y; decide +kernel
  · have hk := bsf_lt y ‹_›
    rw [and_neg y ‹_›, ← UInt64.toNat_toBitVec, bit_toBV _ hk, BitVec.toNat_twoPow,
      Nat.mod_eq_of_lt (Nat.pow_lt_pow_right (by decide) hk), Nat.log2_two_pow]

theorem bsrAux_eq {b : BB} {k : Nat} (hk : testBit b k = true) : ∀ n, k < n →
    (∀ j, k < j → j < n → testBit b j = false) → bsrAux b n = k := by
  intro n
  induction n with
  | zero => intro h; omega
  | succ n ih =>
    intro h hj
    unfold bsrAux
    by_cases e : n = k
    · rw [e, if_pos hk]
    · rw [if_neg (by rw [hj n (by omega) (by omega)]; decide)]
      exact ih (by omega) fun j a c => hj j a (by omega)

theorem bsr_eq (y : BB) : bsr y = Nat.log2 y.toNat := by
  by_cases h : y = 0
  · subst y; decide +kernel
  · have hne : y.toNat ≠ 0 := fun e => h (UInt64.toNat_inj.mp e)
    have hk : y.toNat.log2 < 64 := (Nat.log2_lt hne).mpr y.toNat_lt
    refine bsrAux_eq (by rw [testBit_eq y _ hk]; exact Nat.testBit_log2 hne) 64 hk fun j a c => ?_
    rw [testBit_eq y j c]
    exact Nat.testBit_lt_two_pow (Nat.lt_of_lt_of_le Nat.lt_log2_self (Nat.pow_le_pow_right (by decide) a))

theorem bitIndices_eq (b : BB) : bitIndices b = (List.range 64).filter fun i => b.toNat.testBit i :=
  List.filter_congr fun i hi => testBit_eq b i (List.mem_range.mp hi)

def scanList : Nat → BB → List Nat
  | 0, _ => []
  | n+1, m => low m :: scanList n (m &&& (m - 1))

theorem posList_eq : ∀ n m, posList n m = scanList n m
  | 0, _ => rfl
  | n+1, m => by rw [posList, scanList, bsf_eq, posList_eq n]

end RCE.Proofs.BitScan
