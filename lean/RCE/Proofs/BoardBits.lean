import RCE.Model.Attacks
/-! Bit-level lemmas: `testBit` as the observation of a `UInt64`, extensionality, and the
    behaviour of `&&&`, `|||`, `~~~`, `bit` under it. -/
namespace RCE.Proofs.BoardBits
open RCE

theorem toBV_idx (i : Nat) : (i.toUInt64).toBitVec = BitVec.ofNat 64 i := rfl

theorem shiftAmt (i : Nat) (h : i < 64) : (BitVec.ofNat 64 i % 64 : BitVec 64).toNat = i := by
  simp [BitVec.toNat_umod]; omega

/-- `testBit` reads bit `i % 64`: the shift amount of a `u64` shift wraps -/
theorem testBit_eq_mod (x : UInt64) (i : Nat) : testBit x i = x.toBitVec.getLsbD (i % 64) := by
  unfold testBit
  have h1 : ((x >>> i.toUInt64) &&& 1 != 0) = (((x >>> i.toUInt64) &&& 1).toBitVec != 0#64) := by
    rw [Bool.eq_iff_iff]; simp [← UInt64.toBitVec_inj]
  have h0 : (BitVec.ofNat 64 i % 64 : BitVec 64).toNat = i % 64 := by simp [BitVec.toNat_umod]
  have h2 : (1 : UInt64).toBitVec = BitVec.twoPow 64 0 := by decide
  have h3 : ¬ BitVec.twoPow 64 0 = 0#64 := by decide
  rw [h1, UInt64.toBitVec_and, UInt64.toBitVec_shiftRight, toBV_idx, BitVec.ushiftRight_eq', h0, h2, BitVec.and_twoPow]
  simp
  cases x.toBitVec.getLsbD (i % 64) <;> simp [h3]

theorem testBit_eq (x : UInt64) (i : Nat) (h : i < 64) : testBit x i = x.toBitVec.getLsbD i := by
  rw [testBit_eq_mod, Nat.mod_eq_of_lt h]

theorem bit_toBV (i : Nat) (h : i < 64) : (bit i).toBitVec = BitVec.twoPow 64 i := by
  unfold bit
  rw [UInt64.toBitVec_shiftLeft, toBV_idx, BitVec.shiftLeft_eq', shiftAmt i h]
  simp [BitVec.twoPow]

/-! the Boolean operations need no range hypothesis -/

@[simp] theorem testBit_and (x y : UInt64) (i : Nat) : testBit (x &&& y) i = (testBit x i && testBit y i) := by
  simp [testBit_eq_mod]

@[simp] theorem testBit_or (x y : UInt64) (i : Nat) : testBit (x ||| y) i = (testBit x i || testBit y i) := by
  simp [testBit_eq_mod]

@[simp] theorem testBit_not (x : UInt64) (i : Nat) : testBit (~~~x) i = !testBit x i := by
  simp [testBit_eq_mod, Nat.mod_lt i (by decide : 64 > 0)]

@[simp] theorem testBit_zero (i : Nat) : testBit 0 i = false := by
  simp [testBit_eq_mod]

theorem testBit_bit (i j : Nat) (hi : i < 64) (hj : j < 64) : testBit (bit j) i = decide (i = j) := by
  rw [testBit_eq _ _ hi, bit_toBV _ hj, BitVec.getLsbD_twoPow]
  by_cases h : i = j
  · subst h; simp [hi]
  · have h' : ¬ j = i := fun e => h e.symm
    simp [h, h', hj]

theorem eq_of_testBit (x y : UInt64) (h : ∀ i, i < 64 → testBit x i = testBit y i) : x = y := by
  apply UInt64.toBitVec_inj.mp
  apply BitVec.eq_of_getLsbD_eq
  intro i hi
  rw [← testBit_eq _ _ hi, ← testBit_eq _ _ hi]; exact h i hi

theorem eq_zero_iff (x : UInt64) : x = 0 ↔ ∀ i, i < 64 → testBit x i = false := by
  constructor
  · intro h i _; rw [h]; exact testBit_zero i
  · intro h; apply eq_of_testBit; intro i hi; rw [h i hi, testBit_zero]

theorem and_or_distrib (x a b : UInt64) : x &&& (a ||| b) = x &&& a ||| x &&& b :=
  eq_of_testBit _ _ fun i _ => by simp only [testBit_and, testBit_or, Bool.and_or_distrib_left]

theorem and_eq_self_iff (x m : BB) : x &&& m = x ↔ ∀ i, i < 64 → testBit x i = true → testBit m i = true := by
  constructor
  · intro h i _ hi
    have := congrArg (testBit · i) h
    simpa [hi] using this
  · intro h
    apply eq_of_testBit; intro i hi
    rw [testBit_and]
    cases hx : testBit x i
    · rfl
    · rw [h i hi hx]; rfl

theorem and_or_and_not (x b : BB) : x &&& b ||| x &&& ~~~b = x :=
  eq_of_testBit _ _ fun i _ => by
    simp only [testBit_or, testBit_and, testBit_not]
    cases testBit x i <;> cases testBit b i <;> rfl

/-- the test `mask & x != 0` of `get_piece_kind` is the bit test -/
theorem bit_and_ne_zero (x : UInt64) (i : Nat) (h : i < 64) : (bit i &&& x != 0) = testBit x i := by
  rw [Bool.eq_iff_iff]
  simp only [bne_iff_ne, ne_eq]
  rw [eq_zero_iff]
  constructor
  · intro hn
    cases hx : testBit x i
    · exfalso; apply hn; intro j hj
      rw [testBit_and, testBit_bit _ _ hj h]
      by_cases hji : j = i
      · subst hji; simp [hx]
      · simp [hji]
    · rfl
  · intro hx hall
    have := hall i h
    rw [testBit_and, testBit_bit _ _ h h, hx] at this
    simp at this

theorem and_bit_eq_zero (x : UInt64) (i : Nat) (h : i < 64) : (x &&& bit i == 0) = !testBit x i := by
  rw [UInt64.and_comm, ← bit_and_ne_zero x i h]
  cases hb : (bit i &&& x == 0) <;> simp [bne, hb]

/-- an entry of a table the model builds as `(Array.range n).map f` -/
theorem getD_map_range {α : Type} (f : Nat → α) (n i : Nat) (d : α) :
    ((Array.range n).map f).getD i d = if i < n then f i else d := by
  rw [Array.getD_eq_getD_getElem?]
  split <;> simp [*]

end RCE.Proofs.BoardBits
