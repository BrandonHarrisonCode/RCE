import RCE.Proofs.BoardPBB
import RCE.Proofs.Leapers
/-! What the pseudo-legal generator guarantees about every move it returns (`Gen`), derived from the
    definitions of the movesets.  Of the contents of the attack tables one fact is used, that a pawn attacks the
    rank in front of it (`pawnAttacks_fwd`); otherwise destinations come from `bitIndices`, the explicit pawn
    clauses or the castling clauses, and the range filter.

    The generators are first restated, by `rfl`, in the shape every later proof uses: `Pawn::get_moveset` over its
    colour parameters (`pawnMoveset_eq`), `get_all_moves` as a `flatMap` of `fill`ed movesets (`mem_allMoves`).
    Each generator is then walked once (`mem_pawnBase` for pawns), for both colours. -/
namespace RCE.Proofs.BoardGen
open RCE RCE.Proofs.BoardBits RCE.Proofs.BoardWF RCE.Proofs.BoardPBB

/-- the four per-colour constants of `Pawn::get_moveset`: rank direction, the rank a pawn starts on, the rank it
    captures en passant from, the rank it promotes on -/
def pdr : Color → Int | .white => 1 | .black => -1
def pStart : Color → Nat | .white => 1 | .black => 6
def pEp : Color → Nat | .white => 4 | .black => 3
def pBack : Color → Nat | .white => 7 | .black => 0
/-- the pawn's square mask shifted `k` bits forward (8: one rank, 16: two), as `get_moveset` computes it -/
def nextMask (c : Color) (sq : Square) (k : Nat) : BB :=
  match c with
  | .white => shlChecked (shlChecked 1 sq.idx) k
  | .black => shr (shlChecked 1 sq.idx) k

/-- the last step of `get_moveset`: a move onto the back rank becomes its four promotions -/
def promoExplode (c : Color) (p : Ply) : List Ply :=
  if p.dest.rank == pBack c then
    [{ mkPly p.start p.dest p.piece with promoted := some ⟨.queen, c⟩ },
     { mkPly p.start p.dest p.piece with promoted := some ⟨.rook, c⟩ },
     { mkPly p.start p.dest p.piece with promoted := some ⟨.knight, c⟩ },
     { mkPly p.start p.dest p.piece with promoted := some ⟨.bishop, c⟩ }]
  else [p]

/-- an en-passant capture as `get_moveset` builds it (the one move whose `captured` it fills in itself) -/
def epPly (sq d : Square) (c : Color) : Ply :=
  { mkPly sq d ⟨.pawn, c⟩ with enPassant := true, captured := some ⟨.pawn, c.opp⟩ }

/-- the four lists `get_moveset` concatenates before that step: captures, single push, double push, en passant -/
def mCaps (sq : Square) (b : Board) (c : Color) : List Ply :=
  (bitIndices (pawnAttacks (c == .white) sq.idx &&& sameColorBB b c.opp)).map fun s => mkPly sq (Square.ofIdx s) ⟨.pawn, c⟩
def mSingle (sq : Square) (b : Board) (c : Color) : List Ply :=
  if nextMask c sq 8 &&& b.bbs.all == 0 then [mkPly sq (sq.add (pdr c) 0) ⟨.pawn, c⟩] else []
def mDouble (sq : Square) (b : Board) (c : Color) : List Ply :=
  if sq.rank == pStart c && nextMask c sq 8 &&& b.bbs.all == 0 && nextMask c sq 16 &&& b.bbs.all == 0
    then [{ mkPly sq ((sq.add (pdr c) 0).add (pdr c) 0) ⟨.pawn, c⟩ with isDoublePush := true }] else []
def mEps (sq : Square) (b : Board) (c : Color) : List Ply :=
  if sq.rank == pEp c then
      (if b.ep == some ((sq.add (pdr c) 0).add 0 1).file then [epPly sq ((sq.add (pdr c) 0).add 0 1) c] else [])
      ++ (if b.ep == some ((sq.add (pdr c) 0).add 0 (-1)).file then [epPly sq ((sq.add (pdr c) 0).add 0 (-1)) c] else [])
    else []

theorem pawnMoveset_eq (sq : Square) (b : Board) (c : Color) :
    pawnMoveset sq b c = (mCaps sq b c ++ mSingle sq b c ++ mDouble sq b c ++ mEps sq b c).flatMap (promoExplode c) := by
  cases c <;> rfl

/-- the rank in front of rank `r` as `Square + Direction` computes it (`as u8` wrap-around below rank 0) -/
def fr (c : Color) (r : Nat) : Nat := match c with | .white => r + 1 | .black => if r = 0 then 255 else r - 1
/-- the file to the left, likewise -/
def fl (f : Nat) : Nat := if f = 0 then 255 else f - 1

/-- what `Square + Direction` and the shifted masks come to on the four squares a pawn looks at (decided once for
    every square of the board and both colours, `pawnGeo_fin`) -/
def PawnGeo (c : Color) (s : Square) : Prop :=
  s.add (pdr c) 0 = ⟨fr c s.rank, s.file⟩ ∧
  (s.add (pdr c) 0).add (pdr c) 0 = ⟨fr c (fr c s.rank), s.file⟩ ∧
  (s.add (pdr c) 0).add 0 1 = ⟨fr c s.rank, s.file + 1⟩ ∧
  (s.add (pdr c) 0).add 0 (-1) = ⟨fr c s.rank, fl s.file⟩ ∧
  (fr c s.rank < 8 → nextMask c s 8 = bit (fr c s.rank * 8 + s.file)) ∧
  (fr c (fr c s.rank) < 8 → nextMask c s 16 = bit (fr c (fr c s.rank) * 8 + s.file))

instance (c : Color) (s : Square) : Decidable (PawnGeo c s) := by unfold PawnGeo; infer_instance

theorem pawnGeo_fin : ∀ r f : Fin 8, PawnGeo .white ⟨r.val, f.val⟩ ∧ PawnGeo .black ⟨r.val, f.val⟩ := by decide +kernel

theorem pawnGeo (c : Color) (s : Square) (h : IR s) : PawnGeo c s := by
  obtain ⟨r, f⟩ := s
  cases c
  · exact (pawnGeo_fin ⟨r, h.1⟩ ⟨f, h.2⟩).1
  · exact (pawnGeo_fin ⟨r, h.1⟩ ⟨f, h.2⟩).2

theorem fr_ne (c : Color) (r : Nat) (h : r < 8) : fr c r ≠ r := by
  cases c <;> simp only [fr] <;> (try split) <;> omega

theorem fr_fr_ne (c : Color) (r : Nat) (h : r < 8) : fr c (fr c r) ≠ r := by
  cases c <;> simp only [fr] <;> (repeat' split) <;> omega

theorem fr_start (c : Color) : fr c (pStart c) < 8 ∧ fr c (fr c (pStart c)) < 8 := by cases c <;> decide
theorem fr_ep (c : Color) : fr c (pEp c) = (if c = .white then 5 else 2) := by cases c <;> rfl

theorem and_const_zero (x c : UInt64) (h : (x &&& c == 0) = true) (i : Nat) (hi : i < 64) (hc : testBit c i = true) :
    testBit x i = false := by
  simp only [beq_iff_eq] at h
  have := (eq_zero_iff _).mp h i hi
  rw [testBit_and, hc] at this
  simpa using this

theorem _root_.RCE.Proofs.RefineGen.all_iff (b : Board) (hw : PBB.WF b.bbs) (s : Square) (hs : IR s) :
    testBit b.bbs.all s.idx = false ↔ b.pieceAt s = none := by
  rw [all_bit b hw s hs]
  cases b.pieceAt s <;> simp

/-- an empty-test of the generator against a square of the board -/
theorem empty_test (b : Board) (hw : WF b) (s : Square) (hs : IR s) :
    (bit s.idx &&& b.bbs.all == 0) = (b.pieceAt s).isNone := by
  rw [UInt64.and_comm, and_bit_eq_zero _ _ (idx_lt s hs), all_bit b hw.bbs s hs]
  cases b.pieceAt s <;> rfl

/-- the four castling moves, each with what `castling_ability` has seen before it is generated: whose turn it is, the
    right, and the two squares the king crosses empty -/
def CastleCase (b : Board) (m : Ply) : Prop :=
  (b.turn = .white ∧ m.start = ⟨0,4⟩ ∧ m.dest = ⟨0,6⟩ ∧ b.rights.wk = true ∧ b.pieceAt ⟨0,5⟩ = none ∧ b.pieceAt ⟨0,6⟩ = none) ∨
  (b.turn = .white ∧ m.start = ⟨0,4⟩ ∧ m.dest = ⟨0,2⟩ ∧ b.rights.wq = true ∧ b.pieceAt ⟨0,3⟩ = none ∧ b.pieceAt ⟨0,2⟩ = none) ∨
  (b.turn = .black ∧ m.start = ⟨7,4⟩ ∧ m.dest = ⟨7,6⟩ ∧ b.rights.bk = true ∧ b.pieceAt ⟨7,5⟩ = none ∧ b.pieceAt ⟨7,6⟩ = none) ∨
  (b.turn = .black ∧ m.start = ⟨7,4⟩ ∧ m.dest = ⟨7,2⟩ ∧ b.rights.bq = true ∧ b.pieceAt ⟨7,3⟩ = none ∧ b.pieceAt ⟨7,2⟩ = none)

/-- what the generator guarantees about a move, apart from the range filter and the `captured` field -/
structure Shape (b : Board) (m : Ply) : Prop where
  piece : b.pieceAt m.start = some m.piece
  color : m.piece.color = b.turn
  ep : m.enPassant = true →
    b.pieceAt m.dest = none ∧ m.start.rank = (if b.turn = .white then 4 else 3) ∧ m.dest.rank ≠ m.start.rank ∧
    m.dest.file ≠ m.start.file ∧ m.isCastles = false ∧ m.isDoublePush = false ∧ m.promoted = none
  dp : m.isDoublePush = true →
    m.piece.pk = .pawn ∧ m.isCastles = false ∧ m.enPassant = false ∧ m.promoted = none ∧ m.dest.file = m.start.file ∧
    (if b.turn = .white then m.start.rank = 1 ∧ m.dest.rank = 3 ∧ b.pieceAt ⟨2, m.start.file⟩ = none
     else m.start.rank = 6 ∧ m.dest.rank = 4 ∧ b.pieceAt ⟨5, m.start.file⟩ = none)
  castle : m.isCastles = true →
    m.enPassant = false ∧ m.isDoublePush = false ∧ m.promoted = none ∧ m.piece.pk = .king ∧ CastleCase b m
  promo : ∀ q, m.promoted = some q → q.pk ≠ .king

/-- what a per-kind generator guarantees about a move it builds: its `Shape`; the destination lies in the attack
    set of the moving piece or is empty, and holds no piece of the mover's side; the flags follow from the
    geometry.  No field mentions `captured`, which `get_all_moves` fills in afterwards. -/
structure Built (b : Board) (m : Ply) : Prop where
  shape : Shape b m
  att : b.pieceAt m.dest ≠ none → testBit (kindAttacks m.piece m.start.idx b.bbs.all) m.dest.idx = true
  notown : ∀ k, b.pieceAt m.dest = some k → k.color ≠ b.turn
  kingAdj : m.piece.pk = .king → m.isCastles = false → testBit (kingAttacks m.start.idx) m.dest.idx = true
  nonpawn : m.piece.pk ≠ .pawn → m.enPassant = false ∧ m.isDoublePush = false ∧ m.promoted = none
  prank : m.piece.pk = .pawn → m.isDoublePush = false →
    (if b.turn = .white then m.dest.rank = m.start.rank + 1 else m.start.rank = m.dest.rank + 1)
  pdiag : m.piece.pk = .pawn → m.enPassant = false → m.dest.file ≠ m.start.file → b.pieceAt m.dest ≠ none
  epf : m.enPassant = true → b.ep = some m.dest.file ∧ m.piece.pk = .pawn
  promo : ∀ q, m.promoted = some q → q.color = b.turn

theorem shape_plain (b : Board) (s d : Square) (k : Kind) (q : Option Kind)
    (h1 : b.pieceAt s = some k) (h2 : k.color = b.turn) (h3 : ∀ q', q = some q' → q'.pk ≠ .king) :
    Shape b { mkPly s d k with promoted := q } :=
  ⟨h1, h2, nofun, nofun, nofun, h3⟩

theorem shape_mk (b : Board) (s d : Square) (k : Kind)
    (h1 : b.pieceAt s = some k) (h2 : k.color = b.turn) : Shape b (mkPly s d k) :=
  shape_plain b s d k none h1 h2 nofun

theorem Shape.castleCase {b : Board} {m : Ply} (h : Shape b m) (hc : m.isCastles = true) : CastleCase b m :=
  (h.castle hc).2.2.2.2

theorem Shape.castleKing {b : Board} {m : Ply} (h : Shape b m) (hc : m.isCastles = true) : m.piece = ⟨.king, b.turn⟩ := by
  obtain ⟨-, -, -, h4, -⟩ := h.castle hc
  have hcol := h.color
  cases hp : m.piece with
  | mk pk c => rw [hp] at h4 hcol; simp only at h4 hcol; subst h4; subst hcol; rfl

/-- the four pairs of squares a castling king goes between -/
theorem CastleCase.ends {b : Board} {m : Ply} (h : CastleCase b m) :
    (m.start = ⟨0,4⟩ ∧ m.dest = ⟨0,6⟩) ∨ (m.start = ⟨0,4⟩ ∧ m.dest = ⟨0,2⟩) ∨
    (m.start = ⟨7,4⟩ ∧ m.dest = ⟨7,6⟩) ∨ (m.start = ⟨7,4⟩ ∧ m.dest = ⟨7,2⟩) := by
  rcases h with ⟨-, s, d, -⟩ | ⟨-, s, d, -⟩ | ⟨-, s, d, -⟩ | ⟨-, s, d, -⟩
  · exact .inl ⟨s, d⟩
  · exact .inr (.inl ⟨s, d⟩)
  · exact .inr (.inr (.inl ⟨s, d⟩))
  · exact .inr (.inr (.inr ⟨s, d⟩))

theorem CastleCase.dest_empty {b : Board} {m : Ply} (h : CastleCase b m) : b.pieceAt m.dest = none := by
  rcases h with ⟨-, -, d, -, -, e⟩ | ⟨-, -, d, -, -, e⟩ | ⟨-, -, d, -, -, e⟩ | ⟨-, -, d, -, -, e⟩ <;> (rw [d]; exact e)

theorem sameColor_iff (b : Board) (hw : PBB.WF b.bbs) (s : Square) (hs : IR s) (c : Color) :
    testBit (sameColorBB b c) s.idx = true ↔ ∃ k, b.pieceAt s = some k ∧ k.color = c := by
  rw [sameColor_bit b hw c s hs]
  cases b.pieceAt s <;> simp

/-- a member of `simpleMoveset`: one move for each bit of the attack set that is not on a piece of the mover's colour -/
theorem mem_simpleMoveset {A : BB} {sq : Square} {b : Board} {pc : Kind} {m : Ply} (h : m ∈ simpleMoveset A sq b pc) :
    ∃ s, s < 64 ∧ testBit A s = true ∧ testBit (sameColorBB b pc.color) s = false ∧ m = mkPly sq (Square.ofIdx s) pc := by
  obtain ⟨s, hs, rfl⟩ := List.mem_map.mp h
  obtain ⟨h64, hb⟩ := (mem_bitIndices _ _).mp hs
  rw [testBit_and, testBit_not, Bool.and_eq_true, Bool.not_eq_true'] at hb
  exact ⟨s, h64, hb.1, hb.2, rfl⟩

theorem built_simple (b : Board) (hw : WF b) (A : BB) (sq : Square) (pc : Kind) (m : Ply)
    (h1 : b.pieceAt sq = some pc) (hc : pc.color = b.turn) (hp : pc.pk ≠ .pawn)
    (hA : A = kindAttacks pc sq.idx b.bbs.all) (hm : m ∈ simpleMoveset A sq b pc) : Built b m := by
  obtain ⟨s, h64, hb1, hb2, rfl⟩ := mem_simpleMoveset hm
  refine ⟨shape_mk b sq _ pc h1 hc, fun _ => ?_, fun k hk e => ?_, fun hk _ => ?_, fun _ => ⟨rfl, rfl, rfl⟩,
    fun h => absurd h hp, fun h => absurd h hp, nofun, nofun⟩
  · show testBit (kindAttacks pc sq.idx b.bbs.all) (Square.ofIdx s).idx = true
    rw [ofIdx_idx, ← hA]; exact hb1
  · have : testBit (sameColorBB b pc.color) (Square.ofIdx s).idx = true :=
      (sameColor_iff b hw.bbs _ (ofIdx_IR s h64) _).mpr ⟨k, hk, by rw [hc]; exact e⟩
    rw [ofIdx_idx, hb2] at this; cases this
  · show testBit (kingAttacks sq.idx) (Square.ofIdx s).idx = true
    have hk' : pc.pk = .king := hk
    have : kindAttacks pc sq.idx b.bbs.all = kingAttacks sq.idx := by unfold kindAttacks; rw [hk']
    rw [ofIdx_idx, ← this, ← hA]; exact hb1

/-- the rank the king castles on -/
def homeR : Color → Nat | .white => 0 | .black => 7

/-- a castling move as `King::get_moveset` builds it -/
def castlePly (sq d : Square) (c : Color) : Ply := { mkPly sq d ⟨.king, c⟩ with isCastles := true }

/-- the castling part of `King::get_moveset`, over the colour -/
def castleM (sq : Square) (b : Board) (c : Color) : List Ply :=
  if sq = ⟨homeR c, 4⟩ then
    (if b.castlingAbility (2 * c.idx) then [castlePly sq ⟨homeR c, 6⟩ c] else []) ++
    (if b.castlingAbility (2 * c.idx + 1) then [castlePly sq ⟨homeR c, 2⟩ c] else [])
  else []

theorem kingMoveset_eq (sq : Square) (b : Board) (c : Color) :
    kingMoveset sq b c = simpleMoveset (kingAttacks sq.idx) sq b ⟨.king, c⟩ ++ castleM sq b c := by
  cases c <;> simp [kingMoveset, castleM, simpleMoveset, castlePly, homeR, Color.idx] <;> rfl

/-- what `castling_ability` has tested of the board when it says yes, king side (`q = false`) or queen side: the right,
    and the two squares the king crosses, which its `between` mask covers -/
theorem castlingAbility_facts (b : Board) (hw : WF b) (c : Color) (q : Bool)
    (h : b.castlingAbility (2 * c.idx + q.toNat) = true) :
    b.rights.get (2 * c.idx + q.toNat) = true ∧ b.pieceAt ⟨homeR c, if q then 3 else 5⟩ = none ∧
      b.pieceAt ⟨homeR c, if q then 2 else 6⟩ = none := by
  unfold Board.castlingAbility at h
  simp only [Bool.and_eq_true] at h
  obtain ⟨⟨h1, h2⟩, _⟩ := h
  refine ⟨h1, ?_, ?_⟩ <;> cases c <;> cases q <;>
    exact (RefineGen.all_iff _ hw.bbs _ (by decide)).mp (and_const_zero _ _ h2 _ (by decide) (by decide))

theorem built_castle (b : Board) (sq d : Square) (c : Color) (h1 : b.pieceAt sq = some ⟨.king, c⟩) (h2 : c = b.turn)
    (hc : CastleCase b (castlePly sq d c)) : Built b (castlePly sq d c) :=
  have hd : b.pieceAt d = none := hc.dest_empty
  ⟨⟨h1, h2, nofun, nofun, fun _ => ⟨rfl, rfl, rfl, rfl, hc⟩, nofun⟩, fun h => absurd hd h,
    fun _ hk => (nomatch hd.symm.trans hk), fun _ => nofun, fun _ => ⟨rfl, rfl, rfl⟩, nofun, nofun, nofun,
    fun _ => nofun⟩

theorem built_king (b : Board) (hw : WF b) (sq : Square) (c : Color) (m : Ply)
    (h1 : b.pieceAt sq = some ⟨.king, c⟩) (h2 : c = b.turn) (hm : m ∈ kingMoveset sq b c) : Built b m := by
  rw [kingMoveset_eq] at hm
  rcases List.mem_append.mp hm with hm | hm
  · exact built_simple b hw _ sq _ m h1 h2 (fun h => by cases h) rfl hm
  · simp only [castleM, List.mem_ite_nil_right, List.mem_append, List.mem_singleton] at hm
    obtain ⟨rfl, ⟨ha, rfl⟩ | ⟨ha, rfl⟩⟩ := hm <;> refine built_castle b _ _ c h1 h2 ?_
    · obtain ⟨r, e1, e2⟩ := castlingAbility_facts b hw c false ha
      cases c
      · exact Or.inl ⟨h2.symm, rfl, rfl, r, e1, e2⟩
      · exact Or.inr (Or.inr (Or.inl ⟨h2.symm, rfl, rfl, r, e1, e2⟩))
    · obtain ⟨r, e1, e2⟩ := castlingAbility_facts b hw c true ha
      cases c
      · exact Or.inr (Or.inl ⟨h2.symm, rfl, rfl, r, e1, e2⟩)
      · exact Or.inr (Or.inr (Or.inr ⟨h2.symm, rfl, rfl, r, e1, e2⟩))

/-- the four kinds of move `Pawn::get_moveset` builds before the promotion step, their conditions read on the mailbox -/
theorem mem_pawnBase (b : Board) (hw : WF b) (sq : Square) (hsq : IR sq) (c : Color) (hc : c = b.turn) (p : Ply)
    (hp : p ∈ mCaps sq b c ++ mSingle sq b c ++ mDouble sq b c ++ mEps sq b c) :
    (∃ s, s ∈ bitIndices (pawnAttacks (c == .white) sq.idx &&& sameColorBB b c.opp) ∧
        p = mkPly sq (Square.ofIdx s) ⟨.pawn, c⟩) ∨
    (p = mkPly sq ⟨fr c sq.rank, sq.file⟩ ⟨.pawn, c⟩ ∧
        (fr c sq.rank < 8 → b.pieceAt ⟨fr c sq.rank, sq.file⟩ = none)) ∨
    (p = { mkPly sq ⟨fr c (fr c sq.rank), sq.file⟩ ⟨.pawn, c⟩ with isDoublePush := true } ∧ sq.rank = pStart c ∧
        b.pieceAt ⟨fr c sq.rank, sq.file⟩ = none ∧ b.pieceAt ⟨fr c (fr c sq.rank), sq.file⟩ = none) ∨
    (∃ f, p = epPly sq ⟨fr c sq.rank, f⟩ c ∧ f ≠ sq.file ∧ sq.rank = pEp c ∧ b.ep = some f ∧
        b.pieceAt ⟨fr c sq.rank, f⟩ = none) := by
  obtain ⟨g1, g2, g3, g4, g5, g6⟩ := pawnGeo c sq hsq
  -- a mask test of the generator that comes out empty, read on the square of the board the mask stands for
  have empty : ∀ r k, r < 8 → nextMask c sq k = bit (r * 8 + sq.file) → (nextMask c sq k &&& b.bbs.all == 0) = true →
      b.pieceAt ⟨r, sq.file⟩ = none := fun r k hr e h => by
    rw [e] at h
    exact Option.isNone_iff_eq_none.mp ((empty_test b hw ⟨r, sq.file⟩ ⟨hr, hsq.2⟩).symm.trans h)
  -- what `WF` says about a recorded en-passant file, on this pawn's rank
  have ep : ∀ f, sq.rank = pEp c → b.ep = some f → b.pieceAt ⟨fr c sq.rank, f⟩ = none := by
    intro f hr he
    rw [hr, fr_ep, hc]
    exact (hw.ep.2 f he).2.2
  simp only [List.mem_append] at hp
  rcases hp with ((hp | hp) | hp) | hp
  · obtain ⟨s, hs, rfl⟩ := List.mem_map.mp hp
    exact .inl ⟨s, hs, rfl⟩
  · rw [mSingle, List.mem_ite_nil_right, List.mem_singleton, g1] at hp
    exact .inr (.inl ⟨hp.2, fun h => empty _ 8 h (g5 h) hp.1⟩)
  · rw [mDouble, List.mem_ite_nil_right, List.mem_singleton, g2, Bool.and_eq_true, Bool.and_eq_true, beq_iff_eq] at hp
    obtain ⟨⟨⟨hr, hn1⟩, hn2⟩, hp⟩ := hp
    obtain ⟨h1, h2⟩ := fr_start c
    rw [← hr] at h1 h2
    exact .inr (.inr (.inl ⟨hp, hr, empty _ 8 h1 (g5 h1) hn1, empty _ 16 h2 (g6 h2) hn2⟩))
  · simp only [mEps, List.mem_ite_nil_right, List.mem_append, List.mem_singleton, beq_iff_eq, g3, g4] at hp
    obtain ⟨hr, ⟨he, hp⟩ | ⟨he, hp⟩⟩ := hp
    · exact .inr (.inr (.inr ⟨_, hp, by omega, hr, he, ep _ hr he⟩))
    · refine .inr (.inr (.inr ⟨_, hp, ?_, hr, he, ep _ hr he⟩))
      have := hsq.2; unfold fl; split <;> omega

theorem mem_promoExplode (c : Color) (p m : Ply) (h : m ∈ promoExplode c p) :
    m = p ∨ (p.dest.rank = pBack c ∧ ∃ q : Kind, q.color = c ∧ q.pk ≠ .king ∧
      m = { mkPly p.start p.dest p.piece with promoted := some q }) := by
  unfold promoExplode at h
  split at h
  · rename_i hr
    right
    refine ⟨by simpa using hr, ?_⟩
    have key : ∀ k : PK, k ≠ .king → ∃ q : Kind, q.color = c ∧ q.pk ≠ .king ∧
        { mkPly p.start p.dest p.piece with promoted := some ⟨k, c⟩ } =
          { mkPly p.start p.dest p.piece with promoted := some q } := fun k hk => ⟨⟨k, c⟩, rfl, hk, rfl⟩
    simp only [List.mem_cons, List.not_mem_nil, or_false] at h
    rcases h with rfl | rfl | rfl | rfl <;> exact key _ nofun
  · left; exact List.mem_singleton.mp h

end RCE.Proofs.BoardGen

namespace RCE.Proofs.RefineGen
open RCE RCE.Proofs.BoardBits RCE.Proofs.BoardWF RCE.Proofs.BoardPBB

/-- `d` lies one rank in front of `s`, for a pawn of colour `c` -/
def fwd (c : Color) (s d : Square) : Prop :=
  match c with | .white => d.rank = s.rank + 1 | .black => s.rank = d.rank + 1

/-- the ranks a double push and an en-passant capture arrive on -/
def dpRank : Color → Nat | .white => 3 | .black => 4
def epRank : Color → Nat | .white => 5 | .black => 2

/-- what `Pawn::get_moveset` guarantees about a move of `mCaps ++ mSingle ++ mDouble ++ mEps`, before the promotion step.
    The clauses about the destination assume it on the board: the range filter comes after the generator. -/
structure PF (b : Board) (sq : Square) (c : Color) (p : Ply) : Prop where
  start : p.start = sq
  piece : p.piece = ⟨.pawn, c⟩
  promoted : p.promoted = none
  rank : IR p.dest → p.isDoublePush = false → fwd c sq p.dest
  dprank : p.isDoublePush = true → p.dest.rank = dpRank c
  eprank : p.enPassant = true → p.dest.rank = epRank c
  att : IR p.dest → b.pieceAt p.dest ≠ none → testBit (pawnAttacks (c == .white) sq.idx) p.dest.idx = true
  notown : IR p.dest → ∀ k, b.pieceAt p.dest = some k → k.color ≠ c
  diag : IR p.dest → p.enPassant = false → p.dest.file ≠ sq.file → b.pieceAt p.dest ≠ none
  epf : p.enPassant = true → b.ep = some p.dest.file

end RCE.Proofs.RefineGen

namespace RCE.Proofs.BoardGen
open RCE RCE.Proofs.BoardBits RCE.Proofs.BoardWF RCE.Proofs.BoardPBB RCE.Proofs.RefineGen RCE.Proofs.Sliders

theorem pf_empty (b : Board) (sq : Square) (c : Color) (p : Ply)
    (h1 : p.start = sq) (h2 : p.piece = ⟨.pawn, c⟩) (h3 : p.promoted = none)
    (hr : IR p.dest → p.isDoublePush = false → fwd c sq p.dest)
    (hdp : p.isDoublePush = true → p.dest.rank = dpRank c)
    (hep : p.enPassant = true → p.dest.rank = epRank c)
    (he : IR p.dest → b.pieceAt p.dest = none)
    (hd : p.enPassant = false → p.dest.file = sq.file)
    (hf : p.enPassant = true → b.ep = some p.dest.file) : PF b sq c p :=
  ⟨h1, h2, h3, hr, hdp, hep, fun i h => absurd (he i) h, fun i k hk => (by rw [he i] at hk; cases hk),
    fun _ e h => absurd (hd e) h, hf⟩

theorem pawnDir_eq (c : Color) : Rules.pawnDir (if (c == Color.white) = true then .white else .black) = pdr c := by
  cases c <;> rfl

/-- a pawn attacks only squares of the rank in front of it (from C06: the attack table is the spec's two diagonal steps) -/
theorem pawnAttacks_fwd (c : Color) (i s : Nat) (hi : i < 64) (hs : s < 64)
    (h : testBit (pawnAttacks (c == .white) i) s = true) :
    fwd c (Square.ofIdx i) (Square.ofIdx s) := by
  obtain ⟨d, hd, hstep⟩ := List.mem_filterMap.mp ((pawn_exact (c == .white) i hi s hs).mp h)
  have h2 := (step_some hstep).2.1
  have : d.2 = pdr c := by
    simp only [List.mem_cons, List.not_mem_nil, or_false] at hd
    rcases hd with rfl | rfl <;> exact pawnDir_eq c
  rw [this] at h2
  cases c <;> simp only [fwd, Square.ofIdx, pdr] at h2 ⊢ <;> omega

theorem pf_caps (b : Board) (hw : WF b) (sq : Square) (hsq : IR sq) (c : Color) (s : Nat)
    (hs : s ∈ bitIndices (pawnAttacks (c == .white) sq.idx &&& sameColorBB b c.opp)) :
    PF b sq c (mkPly sq (Square.ofIdx s) ⟨.pawn, c⟩) := by
  obtain ⟨h64, hb⟩ := (mem_bitIndices _ _).mp hs
  rw [testBit_and] at hb
  simp only [Bool.and_eq_true] at hb
  have hir := ofIdx_IR s h64
  obtain ⟨k, hk, hkc⟩ := (sameColor_iff b hw.bbs _ hir c.opp).mp (by rw [ofIdx_idx]; exact hb.2)
  have hsi := idx_lt sq hsq
  refine ⟨rfl, rfl, rfl, fun _ _ => ?_, nofun, nofun,
    fun _ _ => ?_, fun _ k' hk' e => ?_, fun _ _ _ => ?_, nofun⟩
  · have := pawnAttacks_fwd c sq.idx s hsi h64 hb.1
    rwa [ofIdx_of_idx sq hsq] at this
  · show testBit _ (Square.ofIdx s).idx = true
    rw [ofIdx_idx]; exact hb.1
  · have hk'' : b.pieceAt (Square.ofIdx s) = some k' := hk'
    rw [hk] at hk''; injection hk'' with hk''; subst hk''
    rw [hkc] at e; cases c <;> cases e
  · show b.pieceAt (Square.ofIdx s) ≠ none
    rw [hk]; exact nofun

theorem fr_fwd (c : Color) (r f f' : Nat) (h : fr c r < 8) : fwd c ⟨r, f⟩ ⟨fr c r, f'⟩ := by
  cases c
  · rfl
  · by_cases h0 : r = 0
    · simp [fr, h0] at h
    · simp only [fr, fwd, h0, if_false]; omega

theorem pawnBase_facts (b : Board) (hw : WF b) (sq : Square) (hsq : IR sq) (c : Color) (p : Ply)
    (h1 : b.pieceAt sq = some ⟨.pawn, c⟩) (h2 : c = b.turn)
    (hp : p ∈ mCaps sq b c ++ mSingle sq b c ++ mDouble sq b c ++ mEps sq b c) : Shape b p ∧ PF b sq c p := by
  rcases mem_pawnBase b hw sq hsq c h2 p hp with ⟨s, hs, rfl⟩ | ⟨rfl, he⟩ | ⟨rfl, hr, e1, e2⟩ | ⟨f, rfl, hf, hr, he, hn⟩
  · exact ⟨shape_mk b sq _ _ h1 h2, pf_caps b hw sq hsq c s hs⟩
  · exact ⟨shape_mk b sq _ _ h1 h2, pf_empty b sq c _ rfl rfl rfl (fun hd _ => fr_fwd c _ _ _ hd.1) nofun
      nofun (fun hd => he hd.1) (fun _ => rfl) nofun⟩
  · refine ⟨⟨h1, h2, nofun, fun _ => ⟨rfl, rfl, rfl, rfl, rfl, ?_⟩, nofun, nofun⟩,
      pf_empty b sq c _ rfl rfl rfl (fun _ h => by simp at h) (fun _ => by rw [hr]; cases c <;> rfl)
        nofun (fun _ => e2) (fun _ => rfl) nofun⟩
    rw [hr] at e1
    rw [← h2]
    cases c <;> exact ⟨hr, by rw [hr]; rfl, e1⟩
  · have h8 : fr c sq.rank < 8 := by rw [hr]; cases c <;> decide
    refine ⟨⟨h1, h2, fun _ => ⟨hn, ?_, fr_ne c _ hsq.1, hf, rfl, rfl, rfl⟩, nofun, nofun, nofun⟩,
      pf_empty b sq c _ rfl rfl rfl (fun _ _ => fr_fwd c _ _ _ h8) nofun
        (fun _ => by rw [hr]; cases c <;> rfl) (fun _ => hn) nofun (fun _ => he)⟩
    rw [← h2]
    cases c <;> exact hr

theorem built_pawn (b : Board) (hw : WF b) (sq : Square) (hsq : IR sq) (c : Color) (m : Ply)
    (h1 : b.pieceAt sq = some ⟨.pawn, c⟩) (h2 : c = b.turn) (hm : m ∈ pawnMoveset sq b c) (hd : IR m.dest) :
    Built b m := by
  rw [pawnMoveset_eq, List.mem_flatMap] at hm
  obtain ⟨p, hp, hm⟩ := hm
  obtain ⟨hs, pf⟩ := pawnBase_facts b hw sq hsq c p h1 h2 hp
  -- `m` is `p`, but for a promotion piece of the mover's colour when `p` arrives on the back rank
  have key : Shape b m ∧ m.start = p.start ∧ m.dest = p.dest ∧ m.piece = p.piece ∧ m.enPassant = p.enPassant ∧
      m.isDoublePush = p.isDoublePush ∧ (∀ q, m.promoted = some q → q.color = c) := by
    rcases mem_promoExplode c p m hm with rfl | ⟨hr, q, hq, hk, rfl⟩
    · exact ⟨hs, rfl, rfl, rfl, rfl, rfl, fun q h => by rw [pf.promoted] at h; cases h⟩
    · refine ⟨shape_plain b _ _ _ _ hs.piece hs.color (fun _ h => by injection h with h; subst h; exact hk),
        rfl, rfl, rfl, ?_, ?_, fun q' h => ?_⟩
      · cases h : p.enPassant
        · rfl
        · have := pf.eprank h; rw [hr] at this; cases c <;> simp [epRank, pBack] at this
      · cases h : p.isDoublePush
        · rfl
        · have := pf.dprank h; rw [hr] at this; cases c <;> simp [dpRank, pBack] at this
      · have h' : some q = some q' := h
        injection h' with h'; rw [← h']; exact hq
  obtain ⟨hs', k1, k2, k3, k4, k5, k6⟩ := key
  rw [k2] at hd
  have hpk : m.piece.pk = .pawn := by rw [k3, pf.piece]
  refine ⟨hs', fun h => ?_, fun k hk => ?_, fun h => (by rw [hpk] at h; cases h), fun h => absurd hpk h,
    fun _ h => ?_, fun _ h hf => ?_, fun h => ⟨?_, hpk⟩, fun q h => (by rw [← h2]; exact k6 q h)⟩
  · rw [k1, k2, k3, pf.start, pf.piece]
    rw [k2] at h
    exact pf.att hd h
  · rw [k2] at hk; rw [← h2]; exact pf.notown hd k hk
  · rw [k5] at h
    have := pf.rank hd h
    rw [k1, k2, pf.start, ← h2]
    cases c
    · simpa [fwd] using this
    · simpa [fwd] using this
  · rw [k4] at h; rw [k2] at hf ⊢; rw [k1, pf.start] at hf
    exact pf.diag hd h hf
  · rw [k4] at h; rw [k2]; exact pf.epf h

/-- the `captured` field as `get_all_moves` fills it in -/
def fill (b : Board) (m : Ply) : Ply :=
  if m.enPassant then { m with captured := b.pieceAt ⟨m.start.rank, m.dest.file⟩ }
  else { m with captured := b.pieceAt m.dest }

theorem allMoves_eq (b : Board) : b.allMoves = (List.range 64).flatMap fun i =>
    match b.pieceAt (Square.ofIdx i) with
    | some p => if b.turn != p.color then [] else (kindMoveset p (Square.ofIdx i) b).map (fill b)
    | none => [] := rfl

theorem mem_allMoves {b : Board} {m : Ply} : m ∈ b.allMoves ↔
    ∃ i p m0, i < 64 ∧ b.pieceAt (Square.ofIdx i) = some p ∧ p.color = b.turn ∧
      m0 ∈ kindMoveset p (Square.ofIdx i) b ∧ m = fill b m0 := by
  rw [allMoves_eq, List.mem_flatMap]
  constructor
  · rintro ⟨i, hi, hm⟩
    cases hp : b.pieceAt (Square.ofIdx i) with
    | none => rw [hp] at hm; cases hm
    | some p =>
      rw [hp] at hm
      obtain ⟨hc, hm⟩ := List.mem_ite_nil_left.mp hm
      obtain ⟨m0, hm0, rfl⟩ := List.mem_map.mp hm
      exact ⟨i, p, m0, List.mem_range.mp hi, hp, Eq.symm (by simpa using hc), hm0, rfl⟩
  · rintro ⟨i, p, m0, hi, hp, hc, hm0, rfl⟩
    refine ⟨i, List.mem_range.mpr hi, ?_⟩
    have hne : ¬ (b.turn != p.color) = true := by simp [hc]
    rw [hp]; dsimp only; rw [if_neg hne]
    exact List.mem_map.mpr ⟨m0, hm0, rfl⟩

/-- `fill` touches `captured` only, which `Built` does not mention -/
theorem built_fill (b : Board) (m : Ply) (h : Built b m) : Built b (fill b m) := by
  unfold fill
  split <;> exact ⟨⟨h.shape.piece, h.shape.color, h.shape.ep, h.shape.dp, h.shape.castle, h.shape.promo⟩,
    h.att, h.notown, h.kingAdj, h.nonpawn, h.prank, h.pdiag, h.epf, h.promo⟩

theorem built_kind (b : Board) (hw : WF b) (sq : Square) (hsq : IR sq) (p : Kind) (m : Ply)
    (h1 : b.pieceAt sq = some p) (h2 : p.color = b.turn) (hm : m ∈ kindMoveset p sq b) :
    Built b m ∧ IR m.start ∧ IR m.dest ∧ m.start ≠ m.dest := by
  unfold kindMoveset at hm
  rw [List.mem_filter] at hm
  obtain ⟨hm, hf⟩ := hm
  simp only [Bool.and_eq_true, decide_eq_true_eq, bne_iff_ne, ne_eq] at hf
  refine ⟨?_, ⟨hf.1.1.1.1, hf.1.1.1.2⟩, ⟨hf.1.1.2, hf.1.2⟩, hf.2⟩
  obtain ⟨pk, c⟩ := p
  cases pk <;> simp only at hm
  · exact built_pawn b hw sq hsq c m h1 h2 hm ⟨hf.1.1.2, hf.1.2⟩
  · exact built_king b hw sq c m h1 h2 hm
  all_goals exact built_simple b hw _ sq _ m h1 h2 (fun h => by cases h) rfl hm

/-- what `get_all_moves` guarantees about each move it returns: `Built` from the generator of its kind, both ends on the
    board and different from the range filter, `captured` from `fill` -/
structure Gen (b : Board) (m : Ply) : Prop extends Built b m where
  irs : IR m.start
  ird : IR m.dest
  ne : m.start ≠ m.dest
  cap : m.captured = if m.enPassant then b.pieceAt ⟨m.start.rank, m.dest.file⟩ else b.pieceAt m.dest

theorem gen_of_mem (b : Board) (hw : WF b) (m : Ply) (hm : m ∈ b.allMoves) : Gen b m := by
  obtain ⟨i, p, m0, hi, hp, hc, hm0, rfl⟩ := mem_allMoves.mp hm
  obtain ⟨hb, h1, h2, h3⟩ := built_kind b hw _ (ofIdx_IR i hi) p m0 hp hc hm0
  refine ⟨built_fill b m0 hb, ?_, ?_, ?_, ?_⟩ <;> unfold fill <;> split <;> simp [*]

end RCE.Proofs.BoardGen
