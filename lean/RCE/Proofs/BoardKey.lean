import RCE.Proofs.BoardUndo
/-! C04: the incrementally maintained key equals the from-scratch key — after every generated move,
    for positions loaded from FEN, for the start position, and along every make / unmake interleaving.
    Nothing here depends on the values of the Zobrist words (they are kept irreducible): only on the
    algebra of XOR. -/
namespace RCE.Proofs.BoardKey
open RCE RCE.Proofs.BoardBits RCE.Proofs.BoardWF RCE.Proofs.BoardPBB RCE.Proofs.BoardGen RCE.Proofs.BoardMake
  RCE.Proofs.BoardUndo
attribute [local irreducible] zPiece zCastle zEp zTurn

theorem scratchKey_zkey (b : Board) (k : UInt64) : ({ b with zkey := k }).scratchKey = b.scratchKey := rfl

/-- a loader's result, if there is one, carries its from-scratch key -/
def KeyOk (o : Option Board) : Prop := ∀ b, o = some b → b.zkey = b.scratchKey

theorem KeyOk_none : KeyOk none := by intro b h; cases h
theorem KeyOk_some (b0 : Board) (h0 : b0.zkey = b0.scratchKey) : KeyOk (some b0) := by
  intro b h; injection h with h; subst h; exact h0
theorem KeyOk_bind {α} (x : Option α) (f : α → Option Board) (h : ∀ a, KeyOk (f a)) : KeyOk (x.bind f) := by
  intro b hb
  cases x with
  | none => cases hb
  | some a => exact h a b hb

/-- every path through `from_fen` ends in `none` or in `{ b with zkey := b.scratchKey }`, and the from-scratch key does
    not read `zkey`: the proof walks the binds and matches of the `do` block down to these leaves -/
theorem fromFen_keyOk (s : List Char) : KeyOk (Board.fromFen? s) := by
  unfold Board.fromFen?
  simp only [bind, pure]
  repeat' first
    | exact KeyOk_none
    | exact KeyOk_some _ (scratchKey_zkey _ _).symm
    | (apply KeyOk_bind; intro _)
    | split

theorem scratchKey_congr (b b' : Board)
    (hp : ∀ i, i < 64 → b.pieceAt (Square.ofIdx i) = b'.pieceAt (Square.ofIdx i))
    (hr : b.rights = b'.rights) (he : b.ep = b'.ep) (ht : b.turn = b'.turn) :
    b.scratchKey = b'.scratchKey := by
  have : pieceKey b.bbs = pieceKey b'.bbs :=
    KeyParts.xorSum_congr _ _ _ fun i hi => by
      show ow (b.pieceAt (Square.ofIdx i)) _ = ow (b'.pieceAt (Square.ofIdx i)) _
      rw [hp i (List.mem_range.mp hi)]
  rw [scratchKey_pieceKey, scratchKey_pieceKey, hr, he, ht, this]

theorem mem_allKinds (k : Kind) : k ∈ allKinds := by
  rcases k with ⟨pk, c⟩; cases pk <;> cases c <;> decide

theorem start_bbs_wf : PBB.WF PBB.start := by
  refine ⟨fun k k' => ?_, by decide, by decide, by decide⟩
  have : ∀ k ∈ allKinds, ∀ k' ∈ allKinds, k ≠ k' → PBB.start.get k &&& PBB.start.get k' = 0 := by decide +kernel
  exact this k (mem_allKinds k) k' (mem_allKinds k')

theorem start_kings_fin : ∀ r f : Fin 8,
    (PBB.start.pieceAt ⟨r.val, f.val⟩ = some ⟨.king, .white⟩ → (⟨r.val, f.val⟩ : Square) = ⟨0, 4⟩) ∧
    (PBB.start.pieceAt ⟨r.val, f.val⟩ = some ⟨.king, .black⟩ → (⟨r.val, f.val⟩ : Square) = ⟨7, 4⟩) := by
  decide +kernel

theorem start_ok' : Board.start.zkey = Board.start.scratchKey ∧ WF Board.start := by
  refine ⟨?_, ?_⟩
  · exact (scratchKey_zkey ⟨.white, 1, none, [Ply.default], [], PBB.start, 0⟩ _).symm
  · refine ⟨start_bbs_wf, by unfold Board.start; simp, ?_, ?_, ?_⟩
    · refine ⟨fun _ => ?_, fun _ => ?_, fun _ => ?_, fun _ => ?_⟩ <;>
        (show PBB.start.pieceAt _ = _; decide)
    · refine ⟨fun _ s h1 h2 hk => ?_, fun _ s h1 h2 hk => ?_⟩
      · obtain ⟨r, f⟩ := s
        exact (start_kings_fin ⟨r, h1⟩ ⟨f, h2⟩).1 hk
      · obtain ⟨r, f⟩ := s
        exact (start_kings_fin ⟨r, h1⟩ ⟨f, h2⟩).2 hk
    · refine ⟨rfl, ?_⟩
      intro f hf
      have : Board.start.ep = none := rfl
      rw [this] at hf; cases hf

/-- an operation of a game with take-backs -/
inductive Op | make (m : Ply) | unmake

/-- run a sequence of operations; a `make` must name a generated move, an `unmake` needs a move to take back
    (`depth` counts the moves made since the start of the run) -/
def run : Board → Nat → List Op → Option (Board × Nat)
  | b, d, [] => some (b, d)
  | b, d, .make m :: ops => if m ∈ b.allMoves then run (b.makeMove m) (d + 1) ops else none
  | b, d, .unmake :: ops => match d with
    | 0 => none
    | d + 1 => run b.unmakeMove d ops

/-- the boards below the current one on the make / unmake stack: each is well-formed with a correct key
    and the next one up arises from it by a generated move -/
def Chain : List Board → Board → Prop
  | [], b => WF b ∧ b.zkey = b.scratchKey
  | p :: rest, b => (∃ m, m ∈ p.allMoves ∧ b = p.makeMove m) ∧ Chain rest p

theorem chain_ok : ∀ (stk : List Board) (b : Board), Chain stk b → WF b ∧ b.zkey = b.scratchKey
  | [], _, h => h
  | p :: rest, b, ⟨⟨m, hm, e⟩, hc⟩ => by
    have ⟨w, k⟩ := chain_ok rest p hc
    subst e
    have := makeMove_ok p m w k hm
    exact ⟨this.2, this.1⟩

theorem run_chain (ops : List Op) : ∀ (stk : List Board) (b b' : Board) (d : Nat), Chain stk b →
    run b stk.length ops = some (b', d) → ∃ stk', Chain stk' b' := by
  induction ops with
  | nil =>
    intro stk b b' d hc h
    simp only [run] at h
    injection h with h; injection h with h1 h2
    subst h1; exact ⟨stk, hc⟩
  | cons op ops ih =>
    intro stk b b' d hc h
    cases op with
    | make m =>
      simp only [run] at h
      split at h
      · rename_i hm
        exact ih (b :: stk) (b.makeMove m) b' d ⟨⟨m, hm, rfl⟩, hc⟩ h
      · cases h
    | unmake =>
      cases stk with
      | nil => simp [run] at h
      | cons p rest =>
        simp only [run, List.length_cons] at h
        obtain ⟨⟨m, hm, e⟩, hc'⟩ := hc
        have hp := chain_ok rest p hc'
        rw [e, unmakeMove_makeMove p m hp.1 hm] at h
        exact ih rest p b' d hc' h

end RCE.Proofs.BoardKey
