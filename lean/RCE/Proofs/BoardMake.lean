import RCE.Proofs.BoardGen
import RCE.Proofs.KeyParts
/-! `make_move` analysed: the key as an XOR sum, `move_piece` as a point update of the mailbox,
    the castling-rights bookkeeping, and `make_move` restated field by field. -/
namespace RCE.Proofs.BoardMake
open RCE RCE.Proofs.BoardBits RCE.Proofs.BoardWF RCE.Proofs.BoardPBB RCE.Proofs.BoardGen RCE.Proofs.KeyParts

attribute [local irreducible] zPiece zCastle zEp zTurn

theorem xor_cancel_left (a b : UInt64) : a ^^^ (a ^^^ b) = b := by
  rw [← UInt64.xor_assoc, UInt64.xor_self, UInt64.zero_xor]

/-- decide an identity of the XOR group: sort both sides, cancel equal neighbours -/
macro "xor_solve" : tactic =>
  `(tactic| (ac_nf; try simp only [xor_cancel_left, UInt64.xor_self, UInt64.xor_zero, UInt64.zero_xor]; try ac_rfl))

/-- the Zobrist word of what stands on `s`; nothing for an empty square -/
def ow (o : Option Kind) (s : Square) : UInt64 := match o with | some k => zPiece k s | none => 0

/-- the pieces' share of the from-scratch key -/
def pieceKey (p : PBB) : UInt64 := xorSum (sqWord fun i => p.pieceAt (Square.ofIdx i)) (List.range 64)

theorem scratchKey_pieceKey (b : Board) :
    b.scratchKey = pieceKey b.bbs ^^^ rightsWord b.rights ^^^ epWord b.ep ^^^ turnWord b.turn :=
  KeyParts.scratchKey_eq b

/-- the same sum over a mailbox -/
def keyOf (v : Square → Option Kind) : UInt64 := xorSum (sqWord fun i => v (Square.ofIdx i)) (List.range 64)

theorem keyOf_upd (v : Square → Option Kind) (s : Square) (hs : IR s) (o : Option Kind) :
    keyOf (upd v s o) = keyOf v ^^^ ow (v s) s ^^^ ow o s := by
  have e : ∀ w : Square → Option Kind, sqWord (fun i => w (Square.ofIdx i)) s.idx = ow (w s) s := fun w => by
    show ow (w (Square.ofIdx s.idx)) (Square.ofIdx s.idx) = _
    rw [ofIdx_of_idx s hs]
  have := xorSum_update (sqWord fun i => v (Square.ofIdx i)) (sqWord fun i => upd v s o (Square.ofIdx i)) s.idx _
    List.nodup_range (List.mem_range.mpr (idx_lt s hs)) fun i _ hne => by
      show ow (v (Square.ofIdx i)) _ = ow (upd v s o (Square.ofIdx i)) _
      rw [upd_ne v o fun e => hne (by rw [← e, ofIdx_idx])]
  rw [e v, e (upd v s o), upd_self] at this
  rw [UInt64.xor_assoc]; exact this

theorem _root_.RCE.Proofs.BoardPBB.Shows.key {p : PBB} {v : Square → Option Kind} (h : Shows p v) : pieceKey p = keyOf v :=
  xorSum_congr _ _ _ fun i hi => by
    show ow (p.pieceAt (Square.ofIdx i)) _ = ow (v (Square.ofIdx i)) _
    rw [h.2 _ (ofIdx_IR i (List.mem_range.mp hi))]

/-- the square a capture empties: beside the start square on the destination's file for en passant, else the destination -/
def capSq (start dest : Square) (ep : Bool) : Square := if ep then ⟨start.rank, dest.file⟩ else dest

theorem capSq_IR {start dest : Square} (hs : IR start) (hd : IR dest) (ep : Bool) : IR (capSq start dest ep) := by
  unfold capSq; split
  · exact ⟨hs.1, hd.2⟩
  · exact hd

theorem capSq_ne_start {start dest : Square} {ep : Bool} (hne : start ≠ dest)
    (h : ep = true → capSq start dest ep ≠ start) : capSq start dest ep ≠ start := by
  cases ep
  · exact fun e => hne e.symm
  · exact h rfl

/-- `move_piece` on the bitboards -/
def pmove (p : PBB) (start dest : Square) (mv : Kind) (pr cap : Option Kind) (ep : Bool) : PBB :=
  let p := p.removePiece start mv
  let p := match cap with
    | some c => p.removePiece (capSq start dest ep) c
    | none => p
  p.addPiece dest (pr.getD mv)

/-- `undo_move_piece` on the bitboards -/
def pundo (p : PBB) (start dest : Square) (mv : Kind) (pr cap : Option Kind) (ep : Bool) : PBB :=
  let p := p.removePiece dest (pr.getD mv)
  let p := match cap with
    | some c => p.addPiece (capSq start dest ep) c
    | none => p
  p.addPiece start mv

/-- what either of them XORs into the key -/
def wmove (start dest : Square) (mv : Kind) (pr cap : Option Kind) (ep : Bool) : UInt64 :=
  zPiece mv start ^^^ ow cap (capSq start dest ep) ^^^ zPiece (pr.getD mv) dest

theorem movePiece_eq (b : Board) (start dest : Square) (mv : Kind) (pr cap : Option Kind) (ep : Bool) :
    b.movePiece start dest mv pr cap ep =
      { b with bbs := pmove b.bbs start dest mv pr cap ep, zkey := b.zkey ^^^ wmove start dest mv pr cap ep } := by
  cases cap <;> cases ep <;>
    simp [Board.movePiece, Board.removePiece, Board.addPiece, pmove, wmove, capSq, ow, UInt64.xor_assoc]

theorem undoMovePiece_eq (b : Board) (start dest : Square) (mv : Kind) (pr cap : Option Kind) (ep : Bool) :
    b.undoMovePiece start dest mv pr cap ep =
      { b with bbs := pundo b.bbs start dest mv pr cap ep, zkey := b.zkey ^^^ wmove start dest mv pr cap ep } := by
  cases cap <;> cases ep <;>
    simp [Board.undoMovePiece, Board.removePiece, Board.addPiece, pundo, wmove, capSq, ow] <;> xor_solve

/-- the mailbox after `move_piece`: the mover leaves, what stands on the capture square goes, the mover or its
    promotion arrives -/
def viewMove (v : Square → Option Kind) (start dest : Square) (mv : Kind) (pr : Option Kind) (ep : Bool) :
    Square → Option Kind :=
  upd (upd (upd v start none) (capSq start dest ep) none) dest (some (pr.getD mv))

theorem viewMove_ne (v : Square → Option Kind) {st d s : Square} (mv : Kind) (pr : Option Kind) (ep : Bool)
    (h1 : s ≠ st) (h2 : s ≠ d) (h3 : s ≠ capSq st d ep) : viewMove v st d mv pr ep s = v s := by
  unfold viewMove; rw [upd_ne _ _ h2, upd_ne _ _ h3, upd_ne _ _ h1]

/-- the updates in the order in which `Rules.apply` makes them: the capture square only when it is not the destination -/
theorem viewMove_upd (v : Square → Option Kind) (st d : Square) (mv : Kind) (pr : Option Kind) (ep : Bool) :
    viewMove v st d mv pr ep =
      upd (if ep = true then upd (upd v st none) ⟨st.rank, d.file⟩ none else upd v st none) d (some (pr.getD mv)) := by
  cases ep
  · funext t; unfold viewMove upd capSq; simp only [Bool.false_eq_true, if_false]; split <;> rfl
  · rfl

/-- what `move_piece` needs of the mailbox it starts from: the mover on its square, `cap` what stands on the capture
    square, and for an en-passant capture an empty destination and three different squares -/
structure MoveOK (v : Square → Option Kind) (start dest : Square) (mv : Kind) (cap : Option Kind) (ep : Bool) : Prop where
  irs : IR start
  ird : IR dest
  ne : start ≠ dest
  mover : v start = some mv
  cap : cap = v (capSq start dest ep)
  ep : ep = true → v dest = none ∧ capSq start dest ep ≠ start ∧ capSq start dest ep ≠ dest

/-- between the updates of `viewMove`: the capture square still holds what is captured, and the destination is empty
    before the mover arrives -/
theorem pmove_steps {v : Square → Option Kind} {start dest : Square} {mv : Kind} {cap : Option Kind} {ep : Bool}
    (ok : MoveOK v start dest mv cap ep) :
    upd v start none (capSq start dest ep) = cap ∧ upd (upd v start none) (capSq start dest ep) none dest = none := by
  refine ⟨by rw [upd_ne v none (capSq_ne_start ok.ne fun h => (ok.ep h).2.1), ok.cap], ?_⟩
  cases ep
  · exact upd_self _ _ _
  · rw [upd_ne _ none (Ne.symm (ok.ep rfl).2.2), upd_ne v none (Ne.symm ok.ne)]; exact (ok.ep rfl).1

/-- `move_piece` as three point updates: the mover leaves, the captured piece (if any) goes, the mover or its
    promotion arrives on a square that is then empty -/
theorem pmove_shows {p : PBB} {v : Square → Option Kind} (h : Shows p v) {start dest : Square} {mv : Kind}
    {cap : Option Kind} {ep : Bool} (ok : MoveOK v start dest mv cap ep) (pr : Option Kind) :
    Shows (pmove p start dest mv pr cap ep) (viewMove v start dest mv pr ep) ∧
    keyOf (viewMove v start dest mv pr ep) = keyOf v ^^^ wmove start dest mv pr cap ep := by
  have hc := capSq_IR ok.irs ok.ird ep
  obtain ⟨f2, f3⟩ := pmove_steps ok
  unfold viewMove
  constructor
  · have h1 := h.remove ok.irs ok.mover
    cases cap with
    | none => exact (h1.upd_same f2).add ok.ird _ f3
    | some c => exact (h1.remove hc f2).add ok.ird _ f3
  · rw [keyOf_upd _ _ ok.ird, keyOf_upd _ _ hc, keyOf_upd _ _ ok.irs, f3, f2, ok.mover]
    simp only [wmove, ow]; xor_solve

/-- the move takes away the right of colour `c` whose rook starts on `corner`: the king moves, or the rook
    leaves the corner, or a rook is captured on it -/
def revokes (m : Ply) (c : Color) (corner : Square) : Bool :=
  decide (m.piece = ⟨.king, c⟩ ∨ (m.piece = ⟨.rook, c⟩ ∧ m.start = corner) ∨
    (m.captured = some ⟨.rook, c⟩ ∧ m.dest = corner))

/-- the castling rights after a move -/
def newRights (m : Ply) (r : Rights) : Rights :=
  ⟨r.wk && !revokes m .white ⟨0, 7⟩, r.wq && !revokes m .white ⟨0, 0⟩,
   r.bk && !revokes m .black ⟨7, 7⟩, r.bq && !revokes m .black ⟨7, 0⟩⟩

/-- right `i` switched off (`revoke i` on the rights) -/
def clr (i : Nat) (r : Rights) : Rights :=
  match i with
  | 0 => { r with wk := false } | 1 => { r with wq := false } | 2 => { r with bk := false } | _ => { r with bq := false }

/-- the contract of every stage of `make_move_castling_checks`: `f` switches some rights off, which is `g`, and toggles
    exactly their words in the key; `KR_id`, `KR_comp`, `KR_ite` build the stages from `KR_revoke` -/
def KR (f : UInt64 × Rights → UInt64 × Rights) (g : Rights → Rights) : Prop :=
  ∀ k r, f (k, r) = (k ^^^ rightsWord r ^^^ rightsWord (g r), g r)

theorem xor_self_right (k a : UInt64) : k ^^^ a ^^^ a = k := by
  rw [UInt64.xor_assoc, UInt64.xor_self, UInt64.xor_zero]

theorem KR_id : KR (fun st => st) (fun r => r) := fun k r => by rw [xor_self_right]

theorem KR_comp {f f' g g'} (h : KR f g) (h' : KR f' g') : KR (fun st => f' (f st)) (fun r => g' (g r)) := by
  intro k r
  show f' (f (k, r)) = _
  rw [h k r, h' _ _, xor_self_right]

theorem KR_congr {f g g'} (h : KR f g) (e : ∀ r, g r = g' r) : KR f g' := by
  intro k r; rw [← e]; exact h k r

theorem KR_ite {c : Prop} [Decidable c] {f f' g g'} (h : KR f g) (h' : KR f' g') :
    KR (fun st => if c then f st else f' st) (fun r => if c then g r else g' r) := by
  intro k r; by_cases hc : c
  · simp only [if_pos hc]; exact h k r
  · simp only [if_neg hc]; exact h' k r

theorem KR_revoke (i : Nat) : KR (revoke i) (clr i) := by
  rintro k ⟨a, b, c, d⟩
  rcases i with _ | _ | _ | i
  · cases a <;> simp [revoke, clr, rightsWord, UInt64.xor_assoc]
  · cases b <;> simp [revoke, clr, rightsWord, xor_self_right] <;> xor_solve
  · cases c <;> simp [revoke, clr, rightsWord, xor_self_right] <;> xor_solve
  · cases d <;> simp [revoke, clr, rightsWord, xor_self_right] <;> xor_solve

/-- a rook of colour `c` leaves `sq` or is captured there: the `match` on the corner that
    `make_move_castling_checks` has twice -/
def cornerRevoke (c : Color) (sq : Square) (st : UInt64 × Rights) : UInt64 × Rights :=
  match c with
  | .white => if sq = ⟨0, 0⟩ then revoke 1 st else if sq = ⟨0, 7⟩ then revoke 0 st else st
  | .black => if sq = ⟨7, 0⟩ then revoke 3 st else if sq = ⟨7, 7⟩ then revoke 2 st else st

/-- the rights after `cornerRevoke`, each with the condition that switches it off; `moverClr`, `capClr` likewise for
    `moverStage`, `capStage` -/
def cornerClr (c : Color) (sq : Square) (r : Rights) : Rights :=
  ⟨r.wk && !decide (c = .white ∧ sq = ⟨0, 7⟩), r.wq && !decide (c = .white ∧ sq = ⟨0, 0⟩),
   r.bk && !decide (c = .black ∧ sq = ⟨7, 7⟩), r.bq && !decide (c = .black ∧ sq = ⟨7, 0⟩)⟩

theorem KR_corner (c : Color) (sq : Square) : KR (cornerRevoke c sq) (cornerClr c sq) := by
  cases c
  · refine KR_congr (KR_ite (KR_revoke 1) (KR_ite (KR_revoke 0) KR_id)) (fun ⟨_, _, _, _⟩ => ?_)
    by_cases h1 : sq = ⟨0, 0⟩
    · subst h1; simp [clr, cornerClr]
    · by_cases h2 : sq = ⟨0, 7⟩
      · subst h2; simp [clr, cornerClr]
      · simp [cornerClr, h1, h2]
  · refine KR_congr (KR_ite (KR_revoke 3) (KR_ite (KR_revoke 2) KR_id)) (fun ⟨_, _, _, _⟩ => ?_)
    by_cases h1 : sq = ⟨7, 0⟩
    · subst h1; simp [clr, cornerClr]
    · by_cases h2 : sq = ⟨7, 7⟩
      · subst h2; simp [clr, cornerClr]
      · simp [cornerClr, h1, h2]

/-- the mover's half of `make_move_castling_checks` -/
def moverStage (m : Ply) (st : UInt64 × Rights) : UInt64 × Rights :=
  match m.piece.pk, m.piece.color with
  | .king, .white => revoke 1 (revoke 0 st)
  | .king, .black => revoke 3 (revoke 2 st)
  | .rook, c => cornerRevoke c m.start st
  | _, _ => st

/-- the captured rook's half -/
def capStage (m : Ply) (st : UInt64 × Rights) : UInt64 × Rights :=
  match m.captured with
  | some ⟨.rook, c⟩ => cornerRevoke c m.dest st
  | _ => st

theorem castlingRevocations_eq (m : Ply) (st : UInt64 × Rights) :
    castlingRevocations m st = capStage m (moverStage m st) := by
  have e1 : ∀ st, capStage m st = match m.captured with
      | some ⟨.rook, .white⟩ =>
        if m.dest = ⟨0, 0⟩ then revoke 1 st else if m.dest = ⟨0, 7⟩ then revoke 0 st else st
      | some ⟨.rook, .black⟩ =>
        if m.dest = ⟨7, 0⟩ then revoke 3 st else if m.dest = ⟨7, 7⟩ then revoke 2 st else st
      | _ => st := by
    intro st; unfold capStage
    rcases m.captured with _ | ⟨pk, c⟩
    · rfl
    · cases pk <;> cases c <;> rfl
  rw [e1]
  unfold castlingRevocations moverStage
  cases m.piece.pk <;> cases m.piece.color <;> rfl

def moverClr (m : Ply) (r : Rights) : Rights :=
  ⟨r.wk && !decide (m.piece = ⟨.king, .white⟩ ∨ (m.piece = ⟨.rook, .white⟩ ∧ m.start = ⟨0, 7⟩)),
   r.wq && !decide (m.piece = ⟨.king, .white⟩ ∨ (m.piece = ⟨.rook, .white⟩ ∧ m.start = ⟨0, 0⟩)),
   r.bk && !decide (m.piece = ⟨.king, .black⟩ ∨ (m.piece = ⟨.rook, .black⟩ ∧ m.start = ⟨7, 7⟩)),
   r.bq && !decide (m.piece = ⟨.king, .black⟩ ∨ (m.piece = ⟨.rook, .black⟩ ∧ m.start = ⟨7, 0⟩))⟩

def capClr (m : Ply) (r : Rights) : Rights :=
  ⟨r.wk && !decide (m.captured = some ⟨.rook, .white⟩ ∧ m.dest = ⟨0, 7⟩),
   r.wq && !decide (m.captured = some ⟨.rook, .white⟩ ∧ m.dest = ⟨0, 0⟩),
   r.bk && !decide (m.captured = some ⟨.rook, .black⟩ ∧ m.dest = ⟨7, 7⟩),
   r.bq && !decide (m.captured = some ⟨.rook, .black⟩ ∧ m.dest = ⟨7, 0⟩)⟩

theorem KR_mover (m : Ply) : KR (moverStage m) (moverClr m) := by
  unfold moverStage moverClr
  obtain ⟨pk, c⟩ := m.piece
  cases pk <;> cases c <;> dsimp only
  case king.white => exact KR_congr (KR_comp (KR_revoke 0) (KR_revoke 1)) (fun ⟨_, _, _, _⟩ => by simp [clr])
  case king.black => exact KR_congr (KR_comp (KR_revoke 2) (KR_revoke 3)) (fun ⟨_, _, _, _⟩ => by simp [clr])
  case rook.white => exact KR_congr (KR_corner _ _) (fun _ => by simp [cornerClr])
  case rook.black => exact KR_congr (KR_corner _ _) (fun _ => by simp [cornerClr])
  all_goals exact KR_congr KR_id (fun ⟨_, _, _, _⟩ => by simp)

theorem KR_cap (m : Ply) : KR (capStage m) (capClr m) := by
  unfold capStage capClr
  rcases m.captured with _ | ⟨pk, c⟩
  · exact KR_congr KR_id (fun ⟨_, _, _, _⟩ => by simp)
  · cases pk
    case rook => exact KR_congr (KR_corner _ _) (fun _ => by cases c <;> simp [cornerClr])
    all_goals exact KR_congr KR_id (fun ⟨_, _, _, _⟩ => by simp)

/-- `make_move_castling_checks` clears exactly the rights the move revokes, and toggles their words -/
theorem KR_castling (m : Ply) : KR (castlingRevocations m) (newRights m) := by
  refine KR_congr (g := fun r => capClr m (moverClr m r)) (fun k r => ?_) (fun r => ?_)
  · rw [castlingRevocations_eq]; exact KR_comp (KR_mover m) (KR_cap m) k r
  · simp [newRights, revokes, moverClr, capClr, Bool.and_assoc]

theorem revokes_false (m : Ply) (c : Color) (corner : Square) :
    revokes m c corner = false ↔ m.piece ≠ ⟨.king, c⟩ ∧ (m.piece = ⟨.rook, c⟩ → m.start ≠ corner) ∧
      (m.captured = some ⟨.rook, c⟩ → m.dest ≠ corner) := by
  simp [revokes]

/-- the fields of the board after `make_move`, each as a function of board and move: en-passant file, the rook's part
    of castling on the bitboards and in the key, half-move clock -/
def newEp (m : Ply) : Option Nat := if m.isDoublePush then some m.dest.file else none

def castleBBS (t : Color) (m : Ply) (p : PBB) : PBB :=
  if m.isCastles then
    match castleRookSquares m.dest with
    | some (rs, rd) => pmove p rs rd ⟨.rook, t⟩ none none false
    | none => p
  else p

def castleW (t : Color) (m : Ply) : UInt64 :=
  if m.isCastles then
    match castleRookSquares m.dest with
    | some (rs, rd) => wmove rs rd ⟨.rook, t⟩ none none false
    | none => 0
  else 0

def newClock (b : Board) (m : Ply) : Nat :=
  if m.piece.pk == .pawn || m.captured.isSome then 0 else b.top.clock + 1

/-! `make_move` cut along its own `let`s.  The steps are literal copies of the code, so that the decomposition is
    `rfl`: equation lemmas stated with a `match` of their own never fire on the unfolded function (the auxiliary
    matchers differ), and unfolding it whole copies the castling `if` into every field. -/

/-- push the repetition record, clear the old en-passant file and set the new one -/
def epStep (b : Board) (m : Ply) : Board :=
  let key := match b.ep with | some f => b.zkey ^^^ zEp f | none => b.zkey
  let (ep, key) := if m.isDoublePush then (some m.dest.file, key ^^^ zEp m.dest.file) else (none, key)
  { b with posHist := b.zkey :: b.posHist, ep := ep, zkey := key }

/-- the rook's half of a castling move -/
def castleStep (b : Board) (m : Ply) : Board :=
  if m.isCastles then
    match castleRookSquares m.dest with
    | some (rs, rd) => b.movePiece rs rd ⟨.rook, b.turn⟩ none none false
    | none => b
  else b

/-- castling rights, side to move, move number, undo record -/
def endStep (b : Board) (m : Ply) : Board :=
  let (key, rights) := castlingRevocations m (b.zkey, m.rights)
  let m := { m with rights := rights }
  let b := { b with zkey := key }
  let b := b.switchTurn
  let b := if b.turn == .white then { b with fullmove := b.fullmove + 1 } else b
  { b with history := m :: b.history }

theorem makeMove_steps (b : Board) (m : Ply) :
    b.makeMove m =
      let m' := { m with clock := newClock b m, rights := b.top.rights }
      endStep (castleStep ((epStep b m').movePiece m.start m.dest m.piece m.promoted m.captured m.enPassant) m') m' := rfl

theorem epStep_eq (b : Board) (m : Ply) :
    epStep b m = { b with posHist := b.zkey :: b.posHist, ep := newEp m, zkey := b.zkey ^^^ epWord b.ep ^^^ epWord (newEp m) } := by
  unfold epStep newEp
  cases b.ep <;> cases m.isDoublePush <;> simp [epWord]

theorem castleStep_eq (b : Board) (m : Ply) :
    castleStep b m = { b with bbs := castleBBS b.turn m b.bbs, zkey := b.zkey ^^^ castleW b.turn m } := by
  unfold castleStep castleBBS castleW
  cases m.isCastles
  · simp
  · rcases castleRookSquares m.dest with _ | ⟨rs, rd⟩ <;> simp [movePiece_eq]

theorem endStep_eq (b : Board) (m : Ply) :
    endStep b m = { b with
      turn := b.turn.opp
      fullmove := if b.turn.opp == .white then b.fullmove + 1 else b.fullmove
      history := { m with rights := newRights m m.rights } :: b.history
      zkey := b.zkey ^^^ rightsWord m.rights ^^^ rightsWord (newRights m m.rights) ^^^ zTurn } := by
  unfold endStep
  rw [KR_castling m]
  cases h : b.turn <;> simp [Board.switchTurn, Color.opp]

theorem makeMove_eq (b : Board) (m : Ply) :
    b.makeMove m =
      { turn := b.turn.opp,
        fullmove := if b.turn.opp == .white then b.fullmove + 1 else b.fullmove,
        ep := newEp m,
        history := { m with clock := newClock b m, rights := newRights m b.top.rights } :: b.history,
        posHist := b.zkey :: b.posHist,
        bbs := castleBBS b.turn m (pmove b.bbs m.start m.dest m.piece m.promoted m.captured m.enPassant),
        zkey := b.zkey ^^^ epWord b.ep ^^^ epWord (newEp m) ^^^ wmove m.start m.dest m.piece m.promoted m.captured m.enPassant
                  ^^^ castleW b.turn m ^^^ rightsWord b.top.rights ^^^ rightsWord (newRights m b.top.rights) ^^^ zTurn } := by
  rw [makeMove_steps]
  simp only [epStep_eq, movePiece_eq, castleStep_eq, endStep_eq]
  rfl

/-- the rook's part of castling on a mailbox -/
def castleView (t : Color) (m : Ply) (v : Square → Option Kind) : Square → Option Kind :=
  if m.isCastles then
    match castleRookSquares m.dest with
    | some (rs, rd) => viewMove v rs rd ⟨.rook, t⟩ none false
    | none => v
  else v

/-- the mailbox after `make_move` -/
def finalView (b : Board) (m : Ply) : Square → Option Kind :=
  castleView b.turn m (viewMove b.bbs.pieceAt m.start m.dest m.piece m.promoted m.enPassant)

/-- the bitboards after `make_move` -/
def newBBS (b : Board) (m : Ply) : PBB :=
  castleBBS b.turn m (pmove b.bbs m.start m.dest m.piece m.promoted m.captured m.enPassant)

theorem makeMove_turn (b : Board) (m : Ply) : (b.makeMove m).turn = b.turn.opp := by rw [makeMove_eq]
theorem makeMove_fullmove (b : Board) (m : Ply) :
    (b.makeMove m).fullmove = if b.turn.opp == .white then b.fullmove + 1 else b.fullmove := by rw [makeMove_eq]
theorem makeMove_ep (b : Board) (m : Ply) : (b.makeMove m).ep = newEp m := by rw [makeMove_eq]
theorem makeMove_history (b : Board) (m : Ply) : (b.makeMove m).history =
    { m with clock := newClock b m, rights := newRights m b.top.rights } :: b.history := by rw [makeMove_eq]
theorem makeMove_posHist (b : Board) (m : Ply) : (b.makeMove m).posHist = b.zkey :: b.posHist := by rw [makeMove_eq]
theorem makeMove_bbs (b : Board) (m : Ply) : (b.makeMove m).bbs = newBBS b m := by rw [makeMove_eq]; rfl
theorem makeMove_zkey (b : Board) (m : Ply) : (b.makeMove m).zkey =
    b.zkey ^^^ epWord b.ep ^^^ epWord (newEp m) ^^^ wmove m.start m.dest m.piece m.promoted m.captured m.enPassant
      ^^^ castleW b.turn m ^^^ rightsWord b.top.rights ^^^ rightsWord (newRights m b.top.rights) ^^^ zTurn := by
  rw [makeMove_eq]
theorem makeMove_top (b : Board) (m : Ply) :
    (b.makeMove m).top = { m with clock := newClock b m, rights := newRights m b.top.rights } := by
  unfold Board.top; rw [makeMove_history]; rfl
theorem makeMove_rights (b : Board) (m : Ply) : (b.makeMove m).rights = newRights m b.rights :=
  congrArg Ply.rights (makeMove_top b m)
theorem makeMove_halfmove (b : Board) (m : Ply) : (b.makeMove m).halfmove = newClock b m :=
  congrArg Ply.clock (makeMove_top b m)

/-- along any list of plies, generated or not, a castling right that is on at the end was on at the start -/
theorem rights_mono (b : Board) (ms : List Ply) :
    ((ms.foldl Board.makeMove b).rights.wk = true → b.rights.wk = true) ∧
    ((ms.foldl Board.makeMove b).rights.wq = true → b.rights.wq = true) ∧
    ((ms.foldl Board.makeMove b).rights.bk = true → b.rights.bk = true) ∧
    ((ms.foldl Board.makeMove b).rights.bq = true → b.rights.bq = true) := by
  induction ms generalizing b with
  | nil => exact ⟨id, id, id, id⟩
  | cons m ms ih =>
    have h := ih (b.makeMove m)
    rw [makeMove_rights] at h
    simp only [newRights, Bool.and_eq_true] at h
    exact ⟨fun x => (h.1 x).1, fun x => (h.2.1 x).1, fun x => (h.2.2.1 x).1, fun x => (h.2.2.2 x).1⟩

theorem gen_cap (b : Board) (m : Ply) (g : Gen b m) : m.captured = b.bbs.pieceAt (capSq m.start m.dest m.enPassant) := by
  rw [g.cap]; unfold capSq; split <;> rfl

theorem gen_ep (b : Board) (m : Ply) (g : Gen b m) (h : m.enPassant = true) :
    b.bbs.pieceAt m.dest = none ∧ capSq m.start m.dest m.enPassant ≠ m.start ∧ capSq m.start m.dest m.enPassant ≠ m.dest := by
  obtain ⟨h1, h2, h3, h4, -⟩ := g.shape.ep h
  refine ⟨h1, ?_, ?_⟩
  · rw [h]; unfold capSq; simp only [if_true]
    intro e; apply h4; rw [← e]
  · rw [h]; unfold capSq; simp only [if_true]
    intro e; apply h3; rw [← e]

theorem gen_moveOK (b : Board) (m : Ply) (g : Gen b m) :
    MoveOK b.bbs.pieceAt m.start m.dest m.piece m.captured m.enPassant :=
  ⟨g.irs, g.ird, g.ne, g.shape.piece, gen_cap b m g, gen_ep b m g⟩

theorem main_shows (b : Board) (m : Ply) (hw : WF b) (g : Gen b m) :
    Shows (pmove b.bbs m.start m.dest m.piece m.promoted m.captured m.enPassant)
      (viewMove b.bbs.pieceAt m.start m.dest m.piece m.promoted m.enPassant) ∧
    keyOf (viewMove b.bbs.pieceAt m.start m.dest m.piece m.promoted m.enPassant) =
      keyOf b.bbs.pieceAt ^^^ wmove m.start m.dest m.piece m.promoted m.captured m.enPassant :=
  pmove_shows ⟨hw.bbs, fun _ _ => rfl⟩ (gen_moveOK b m g) m.promoted

/-- a castling move: its rook squares, what stands on the four squares involved, what the move is not -/
structure CastleSq (b : Board) (m : Ply) (rs rd : Square) : Prop where
  crs : castleRookSquares m.dest = some (rs, rd)
  irs : IR rs
  ird : IR rd
  ne : rs ≠ rd
  rs_start : rs ≠ m.start
  rs_dest : rs ≠ m.dest
  rd_start : rd ≠ m.start
  rd_dest : rd ≠ m.dest
  rook : b.bbs.pieceAt rs = some ⟨.rook, b.turn⟩
  rd_empty : b.bbs.pieceAt rd = none
  dest_empty : b.bbs.pieceAt m.dest = none
  noEp : m.enPassant = false
  noPromo : m.promoted = none

/-- the king's move does not touch the rook's squares, so the rook can make its own -/
theorem CastleSq.rookOK {b : Board} {m : Ply} {rs rd : Square} (cs : CastleSq b m rs rd) :
    MoveOK (viewMove b.bbs.pieceAt m.start m.dest m.piece m.promoted m.enPassant) rs rd ⟨.rook, b.turn⟩ none false :=
  ⟨cs.irs, cs.ird, cs.ne,
    (viewMove_ne _ _ _ _ cs.rs_start cs.rs_dest (by rw [cs.noEp]; exact cs.rs_dest)).trans cs.rook,
    ((viewMove_ne _ _ _ _ cs.rd_start cs.rd_dest (by rw [cs.noEp]; exact cs.rd_dest)).trans cs.rd_empty).symm, nofun⟩

theorem castle_squares (b : Board) (m : Ply) (hw : WF b) (g : Gen b m) (hc : m.isCastles = true) :
    ∃ rs rd, CastleSq b m rs rd := by
  obtain ⟨h1, -, h3, -, h5⟩ := g.shape.castle hc
  obtain ⟨r1, r2, r3, r4⟩ := hw.rights
  -- in each of the four cases the squares are concrete, and what is said of them alone is decided
  have key : ∃ (ks kd rs rd : Square) (c : Color),
      (castleRookSquares kd = some (rs, rd) ∧ IR rs ∧ IR rd ∧ rs ≠ rd ∧ rs ≠ ks ∧ rs ≠ kd ∧ rd ≠ ks ∧ rd ≠ kd) ∧
      b.turn = c ∧ m.start = ks ∧ m.dest = kd ∧ b.pieceAt rs = some ⟨.rook, c⟩ ∧ b.pieceAt rd = none ∧
      b.pieceAt kd = none := by
    rcases h5 with ⟨t, s, d, r, e1, e2⟩ | ⟨t, s, d, r, e1, e2⟩ | ⟨t, s, d, r, e1, e2⟩ | ⟨t, s, d, r, e1, e2⟩
    · exact ⟨⟨0,4⟩, ⟨0,6⟩, ⟨0,7⟩, ⟨0,5⟩, .white, by decide, t, s, d, r1 r, e1, e2⟩
    · exact ⟨⟨0,4⟩, ⟨0,2⟩, ⟨0,0⟩, ⟨0,3⟩, .white, by decide, t, s, d, r2 r, e1, e2⟩
    · exact ⟨⟨7,4⟩, ⟨7,6⟩, ⟨7,7⟩, ⟨7,5⟩, .black, by decide, t, s, d, r3 r, e1, e2⟩
    · exact ⟨⟨7,4⟩, ⟨7,2⟩, ⟨7,0⟩, ⟨7,3⟩, .black, by decide, t, s, d, r4 r, e1, e2⟩
  obtain ⟨ks, kd, rs, rd, c, ⟨f1, f2, f3, f4, f5, f6, f7, f8⟩, t, s, d, hr, e1, e2⟩ := key
  exact ⟨rs, rd, d ▸ f1, f2, f3, f4, s ▸ f5, d ▸ f6, s ▸ f7, d ▸ f8, t ▸ hr, e1, d ▸ e2, h1, h3⟩

theorem bbs_ok (b : Board) (m : Ply) (hw : WF b) (g : Gen b m) :
    Shows (newBBS b m) (finalView b m) ∧
    pieceKey (newBBS b m) = pieceKey b.bbs ^^^ wmove m.start m.dest m.piece m.promoted m.captured m.enPassant
      ^^^ castleW b.turn m := by
  obtain ⟨h1, k1⟩ := main_shows b m hw g
  unfold newBBS finalView castleBBS castleView castleW
  cases hc : m.isCastles
  · simp only [Bool.false_eq_true, if_false, UInt64.xor_zero]
    exact ⟨h1, h1.key.trans k1⟩
  · obtain ⟨rs, rd, cs⟩ := castle_squares b m hw g hc
    simp only [if_true, cs.crs]
    obtain ⟨h2, k2⟩ := pmove_shows h1 cs.rookOK none
    exact ⟨h2, by rw [h2.key, k2, k1]; rfl⟩

theorem makeMove_pieceAt (b : Board) (m : Ply) (hw : WF b) (g : Gen b m) (s : Square) (hs : IR s) :
    (b.makeMove m).pieceAt s = finalView b m s := by
  show (b.makeMove m).bbs.pieceAt s = _
  rw [makeMove_bbs]; exact (bbs_ok b m hw g).1.2 s hs

theorem tw_opp (t : Color) : zTurn = turnWord t ^^^ turnWord t.opp := by
  cases t <;> simp [turnWord, Color.opp]

theorem makeMove_key (b : Board) (m : Ply) (hw : WF b) (hk : b.zkey = b.scratchKey) (g : Gen b m) :
    (b.makeMove m).zkey = (b.makeMove m).scratchKey := by
  have hb := (bbs_ok b m hw g).2
  unfold newBBS at hb
  rw [scratchKey_pieceKey (b.makeMove m), makeMove_eq]
  simp only [Board.rights, Board.top, List.headD_cons]
  rw [hb, hk, scratchKey_pieceKey b, tw_opp b.turn]
  simp only [Board.rights, Board.top]
  xor_solve

theorem right_on {x : Bool} {m : Ply} {c : Color} {corner : Square} (h : (x && !revokes m c corner) = true) :
    x = true ∧ m.piece ≠ ⟨.king, c⟩ ∧ (m.piece = ⟨.rook, c⟩ → m.start ≠ corner) ∧
      (m.captured = some ⟨.rook, c⟩ → m.dest ≠ corner) := by
  rwa [Bool.and_eq_true, Bool.not_eq_true', revokes_false] at h

/-- a piece the move does not touch stays where it is -/
theorem finalView_keep (b : Board) (m : Ply) (hw : WF b) (g : Gen b m) (s : Square) (k : Kind)
    (hk : b.pieceAt s = some k) (h1 : s ≠ m.start) (h2 : s ≠ m.dest)
    (h3 : m.enPassant = true → s ≠ ⟨m.start.rank, m.dest.file⟩) (h4 : m.isCastles = true → k ≠ ⟨.rook, b.turn⟩) :
    finalView b m s = some k := by
  have h5 : s ≠ capSq m.start m.dest m.enPassant := by
    unfold capSq; split
    · exact h3 ‹_›
    · exact h2
  have hv := (viewMove_ne b.bbs.pieceAt m.piece m.promoted m.enPassant h1 h2 h5).trans hk
  unfold finalView castleView
  cases hc : m.isCastles
  · simpa using hv
  · obtain ⟨rs, rd, cs⟩ := castle_squares b m hw g hc
    simp only [if_true, cs.crs]
    have m1 : s ≠ rs := by
      intro e; rw [e] at hk
      have : b.bbs.pieceAt rs = some k := hk
      rw [cs.rook] at this; injection this with this; exact h4 hc this.symm
    have m2 : s ≠ rd := by
      intro e; rw [e] at hk
      have : b.bbs.pieceAt rd = some k := hk
      rw [cs.rd_empty] at this; cases this
    exact (viewMove_ne _ _ _ false m1 m2 m2).trans hv

/-- a right that survives a move leaves its rook on the corner -/
theorem corner_kept (b : Board) (m : Ply) (hw : WF b) (g : Gen b m) (cl : Color) (c : Square) (hc : IR c)
    (hcr : c.rank = (if cl = .white then 0 else 7)) (x : Bool) (hx : x = true → b.pieceAt c = some ⟨.rook, cl⟩)
    (h : (x && !revokes m cl c) = true) : finalView b m c = some ⟨.rook, cl⟩ := by
  obtain ⟨hx', h0, h1, h2⟩ := right_on h
  have hb : b.bbs.pieceAt c = some ⟨.rook, cl⟩ := hx hx'
  have n1 : c ≠ m.start := by
    intro e; subst e
    have := g.shape.piece
    unfold Board.pieceAt at this
    rw [hb] at this; injection this with this
    exact h1 this.symm rfl
  have n2 : c ≠ m.dest := by
    intro e; subst e
    cases he : m.enPassant
    · have := g.cap; rw [he] at this; simp only [Bool.false_eq_true, if_false] at this
      unfold Board.pieceAt at this; rw [hb] at this
      exact h2 this rfl
    · have := (g.shape.ep he).1
      unfold Board.pieceAt at this; rw [hb] at this; cases this
  have n3 : c ≠ capSq m.start m.dest m.enPassant := by
    cases he : m.enPassant
    · simpa [capSq] using n2
    · have := (g.shape.ep he).2.1
      intro e
      have e' : c.rank = m.start.rank := by rw [e]; simp [capSq]
      rw [hcr, this] at e'
      revert e'; split <;> split <;> decide
  refine finalView_keep b m hw g c _ hb n1 n2 (fun he => by simpa [capSq, he] using n3) fun hcs e => h0 ?_
  injection e with _ e
  rw [g.shape.castleKing hcs, e]

theorem viewMove_some (v : Square → Option Kind) (st d : Square) (mv : Kind) (pr : Option Kind) (ep : Bool)
    (s : Square) (k : Kind) (h : viewMove v st d mv pr ep s = some k) :
    (s = d ∧ k = pr.getD mv) ∨ v s = some k := by
  unfold viewMove at h
  rcases upd_some h with ⟨e, h'⟩ | h
  · exact Or.inl ⟨e, (Option.some.inj h').symm⟩
  · rcases upd_some h with ⟨-, h'⟩ | h
    · cases h'
    · rcases upd_some h with ⟨-, h'⟩ | h
      · cases h'
      · exact Or.inr h

theorem finalView_some (b : Board) (m : Ply) (s : Square) (k : Kind) (h : finalView b m s = some k) :
    (s = m.dest ∧ k = m.promoted.getD m.piece) ∨ k = ⟨.rook, b.turn⟩ ∨ b.bbs.pieceAt s = some k := by
  unfold finalView castleView at h
  split at h
  · rcases hcr : castleRookSquares m.dest with _ | ⟨rs, rd⟩ <;> rw [hcr] at h <;> simp only at h
    · rcases viewMove_some _ _ _ _ _ _ _ _ h with e | e
      · exact Or.inl e
      · exact Or.inr (Or.inr e)
    · rcases viewMove_some _ _ _ _ _ _ _ _ h with ⟨_, e⟩ | h'
      · exact Or.inr (Or.inl e)
      · rcases viewMove_some _ _ _ _ _ _ _ _ h' with e | e
        · exact Or.inl e
        · exact Or.inr (Or.inr e)
  · rcases viewMove_some _ _ _ _ _ _ _ _ h with e | e
    · exact Or.inl e
    · exact Or.inr (Or.inr e)

/-- a king on the board after a generated move was there before, or is the mover arriving (nothing promotes to a king) -/
theorem finalView_king (b : Board) (m : Ply) (g : Gen b m) (c : Color) (s : Square)
    (h : finalView b m s = some ⟨.king, c⟩) : (s = m.dest ∧ m.piece = ⟨.king, c⟩) ∨ b.pieceAt s = some ⟨.king, c⟩ := by
  rcases finalView_some b m s _ h with ⟨e1, e2⟩ | e | e
  · refine Or.inl ⟨e1, ?_⟩
    cases hq : m.promoted with
    | none => rw [hq] at e2; exact e2.symm
    | some q =>
      rw [hq] at e2
      exact absurd (congrArg Kind.pk e2).symm (g.shape.promo q hq)
  · cases e
  · exact Or.inr e

/-- no king appears off its home square while the side keeps one of its two rights -/
theorem kings_kept (b : Board) (m : Ply) (g : Gen b m) (c : Color) (home k q : Square) (x y : Bool)
    (hb : x = true ∨ y = true → ∀ s : Square, s.rank < 8 → s.file < 8 → b.pieceAt s = some ⟨.king, c⟩ → s = home)
    (h : (x && !revokes m c k) = true ∨ (y && !revokes m c q) = true)
    (s : Square) (hs : IR s) (hk : finalView b m s = some ⟨.king, c⟩) : s = home := by
  have ⟨hxy, h0⟩ : (x = true ∨ y = true) ∧ m.piece ≠ ⟨.king, c⟩ := by
    rcases h with h | h
    · exact ⟨Or.inl (right_on h).1, (right_on h).2.1⟩
    · exact ⟨Or.inr (right_on h).1, (right_on h).2.1⟩
  rcases finalView_king b m g c s hk with ⟨-, e⟩ | e
  · exact absurd e h0
  · exact hb hxy s hs.1 hs.2 e

theorem makeMove_wf (b : Board) (m : Ply) (hw : WF b) (g : Gen b m) : WF (b.makeMove m) := by
  obtain ⟨⟨wb, vb⟩, -⟩ := bbs_ok b m hw g
  refine ⟨by rw [makeMove_bbs]; exact wb, by rw [makeMove_history]; simp, ?_, ?_, ?_⟩
  · obtain ⟨r1, r2, r3, r4⟩ := hw.rights
    unfold RightsConsistent Board.pieceAt; rw [makeMove_rights, makeMove_bbs]
    exact ⟨fun h => (vb _ (by decide)).trans (corner_kept b m hw g .white ⟨0,7⟩ (by decide) rfl _ r1 h),
      fun h => (vb _ (by decide)).trans (corner_kept b m hw g .white ⟨0,0⟩ (by decide) rfl _ r2 h),
      fun h => (vb _ (by decide)).trans (corner_kept b m hw g .black ⟨7,7⟩ (by decide) rfl _ r3 h),
      fun h => (vb _ (by decide)).trans (corner_kept b m hw g .black ⟨7,0⟩ (by decide) rfl _ r4 h)⟩
  · obtain ⟨k1, k2⟩ := hw.kings
    unfold KingsHome Board.pieceAt; rw [makeMove_rights, makeMove_bbs]
    exact ⟨fun h s hs1 hs2 hk => kings_kept b m g .white _ _ _ _ _ k1 h s ⟨hs1, hs2⟩ (vb s ⟨hs1, hs2⟩ ▸ hk),
      fun h s hs1 hs2 hk => kings_kept b m g .black _ _ _ _ _ k2 h s ⟨hs1, hs2⟩ (vb s ⟨hs1, hs2⟩ ▸ hk)⟩
  · unfold EpConsistent
    rw [makeMove_ep, makeMove_top, makeMove_turn]
    refine ⟨rfl, fun f hf => ?_⟩
    unfold newEp at hf
    cases hdp : m.isDoublePush <;> rw [hdp] at hf
    · cases hf
    · injection hf with hf
      obtain ⟨d1, d2, d3, d4, d5, d6⟩ := g.shape.dp hdp
      have hf8 : f < 8 := by rw [← hf]; exact g.ird.2
      have hpc : m.piece = ⟨.pawn, b.turn⟩ := by
        have hcol := g.shape.color
        cases hp : m.piece with
        | mk pk c => rw [hp] at d1 hcol; simp only at d1 hcol; subst d1; subst hcol; rfl
      -- a double push is neither castling nor en passant nor a promotion: the pawn arrives, the squares of its
      -- file that it does not touch stay as they are
      have hfin : ∀ s, IR s → (b.makeMove m).pieceAt s =
          viewMove b.bbs.pieceAt m.start m.dest m.piece m.promoted m.enPassant s := by
        intro s hs
        unfold Board.pieceAt; rw [makeMove_bbs, vb s hs]
        unfold finalView castleView; rw [d2]; simp
      have arrived : ∀ r, m.dest.rank = r → (b.makeMove m).pieceAt ⟨r, f⟩ = some ⟨.pawn, b.turn⟩ := by
        intro r hr
        have hd : m.dest = ⟨r, f⟩ := by rw [← hr, ← hf]
        rw [← hd, hfin _ g.ird]; unfold viewMove; rw [upd_self, d4, hpc]; rfl
      have passed : ∀ r, r < 8 → m.dest.rank ≠ r → m.start.rank ≠ r → b.pieceAt ⟨r, m.start.file⟩ = none →
          (b.makeMove m).pieceAt ⟨r, f⟩ = none := by
        intro r hr e1 e2 hn
        have n1 : (⟨r, f⟩ : Square) ≠ m.dest := fun e => e1 (by rw [← e])
        have n2 : (⟨r, f⟩ : Square) ≠ m.start := fun e => e2 (by rw [← e])
        rw [hfin _ ⟨hr, hf8⟩, viewMove_ne _ _ _ _ n2 n1 (by rw [d3]; exact n1), ← hf, d5]; exact hn
      refine ⟨hf8, ?_⟩
      cases ht : b.turn <;> rw [ht] at d6 arrived
      · simp only [if_true] at d6
        exact ⟨arrived 3 d6.2.1, passed 2 (by omega) (by omega) (by omega) d6.2.2⟩
      · simp only [reduceCtorEq, if_false] at d6
        exact ⟨arrived 4 d6.2.1, passed 5 (by omega) (by omega) (by omega) d6.2.2⟩

theorem makeMove_ok (b : Board) (m : Ply) (hw : WF b) (hk : b.zkey = b.scratchKey) (hm : m ∈ b.allMoves) :
    (b.makeMove m).zkey = (b.makeMove m).scratchKey ∧ WF (b.makeMove m) :=
  have g := gen_of_mem b hw m hm
  ⟨makeMove_key b m hw hk g, makeMove_wf b m hw g⟩

end RCE.Proofs.BoardMake
