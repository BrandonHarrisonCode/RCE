import RCE.Proofs.BoardBits
import RCE.Proofs.BoardWF
/-! `PieceBitboards` under its invariant: `pieceAt` is the bit test of the twelve boards, and
    `addPiece` / `removePiece` are point updates of the mailbox view. -/
namespace RCE.Proofs.BoardPBB
open RCE RCE.Proofs.BoardBits RCE.Proofs.BoardWF

/-- `s` is one of the 64 squares (the fields of a `Square` are unbounded `Nat`s) -/
def IR (s : Square) : Prop := s.rank < 8 ∧ s.file < 8

instance (s : Square) : Decidable (IR s) := by unfold IR; infer_instance

theorem mask_fin : ∀ r f : Fin 8, Square.mask ⟨r.val, f.val⟩ = bit (r.val * 8 + f.val) := by decide +kernel

theorem mask_eq (s : Square) (h : IR s) : s.mask = bit s.idx := by
  obtain ⟨r, f⟩ := s
  exact mask_fin ⟨r, h.1⟩ ⟨f, h.2⟩

theorem idx_lt (s : Square) (h : IR s) : s.idx < 64 := by
  unfold Square.idx; unfold IR at h; omega

theorem opp_opp (c : Color) : c.opp.opp = c := by cases c <;> rfl

theorem get_set (p : PBB) (k j : Kind) (v : BB) : (p.set k v).get j = if j = k then v else p.get j := by
  rcases k with ⟨pk, c⟩; rcases j with ⟨pk', c'⟩
  cases pk <;> cases c <;> cases pk' <;> cases c' <;> rfl

theorem get_recompute (p : PBB) (c : Color) (j : Kind) : (p.recompute c).get j = p.get j := by
  rcases j with ⟨pk', c'⟩
  cases c <;> cases pk' <;> cases c' <;> rfl

/-- bit `i` of the board of kind `k` -/
def has (p : PBB) (k : Kind) (i : Nat) : Bool := testBit (p.get k) i

/-- the cascade of `get_piece_kind` over one colour: the first kind whose board has the bit -/
def firstOf (f : Kind → Bool) : List Kind → Except Unit (Option Kind)
  | [] => .error ()
  | k :: l => if f k then .ok (some k) else firstOf f l

/-- `get_piece_kind`: the white union sends it down the white cascade, else the black union down the black one, else the
    square is empty -/
def pick (w bl : Bool) (f : Kind → Bool) : Except Unit (Option Kind) :=
  if w then firstOf f [⟨.pawn, .white⟩, ⟨.king, .white⟩, ⟨.queen, .white⟩, ⟨.rook, .white⟩, ⟨.knight, .white⟩, ⟨.bishop, .white⟩]
  else if bl then firstOf f [⟨.pawn, .black⟩, ⟨.king, .black⟩, ⟨.queen, .black⟩, ⟨.rook, .black⟩, ⟨.knight, .black⟩, ⟨.bishop, .black⟩]
  else .ok none

theorem pieceAt?_eq (p : PBB) (s : Square) (h : IR s) :
    p.pieceAt? s = pick (testBit p.white s.idx) (testBit p.black s.idx) (fun k => has p k s.idx) := by
  have hi := idx_lt s h
  simp only [PBB.pieceAt?, mask_eq s h, bit_and_ne_zero _ _ hi]
  rfl

theorem firstOf_some (f : Kind → Bool) (k : Kind) : ∀ l, firstOf f l = .ok (some k) → f k = true
  | [], h => by cases h
  | a :: l, h => by
    unfold firstOf at h
    split at h
    · injection h with h; injection h with h; subst h; assumption
    · exact firstOf_some f k l h

theorem firstOf_any (f : Kind → Bool) : ∀ l, l.any f = true → ∃ k, firstOf f l = .ok (some k)
  | [], h => by cases h
  | a :: l, h => by
    unfold firstOf
    split
    · exact ⟨a, rfl⟩
    · rename_i hn
      rw [List.any_cons, Bool.or_eq_true] at h
      exact firstOf_any f l (h.resolve_left hn)

theorem pick_some (w bl : Bool) (f : Kind → Bool) (k : Kind) (h : pick w bl f = .ok (some k)) : f k = true := by
  unfold pick at h
  split at h
  · exact firstOf_some f k _ h
  · split at h
    · exact firstOf_some f k _ h
    · cases h

/-- with the unions being the unions, the cascade never falls through -/
theorem pick_total (w bl : Bool) (f : Kind → Bool)
    (hw : w = (f ⟨.pawn, .white⟩ || f ⟨.knight, .white⟩ || f ⟨.bishop, .white⟩ || f ⟨.rook, .white⟩ || f ⟨.queen, .white⟩ || f ⟨.king, .white⟩))
    (hb : bl = (f ⟨.pawn, .black⟩ || f ⟨.knight, .black⟩ || f ⟨.bishop, .black⟩ || f ⟨.rook, .black⟩ || f ⟨.queen, .black⟩ || f ⟨.king, .black⟩)) :
    (∃ k, pick w bl f = .ok (some k)) ∨ (pick w bl f = .ok none ∧ ∀ k, f k = false) := by
  unfold pick
  cases w
  · cases bl
    · right
      refine ⟨rfl, ?_⟩
      simp only [Bool.false_eq, Bool.or_eq_false_iff] at hw hb
      rintro ⟨pk, c⟩
      cases pk <;> cases c <;> simp only [hw, hb]
    · left
      apply firstOf_any
      simp only [List.any_cons, List.any_nil, Bool.or_false]
      rw [hb]; ac_rfl
  · left
    apply firstOf_any
    simp only [List.any_cons, List.any_nil, Bool.or_false]
    rw [hw]; ac_rfl

theorem has_disjoint (p : PBB) (hw : PBB.WF p) (i : Nat) (hi : i < 64) (k k' : Kind)
    (h : has p k i = true) (h' : has p k' i = true) : k = k' := by
  by_cases e : k = k'
  · exact e
  · have := (eq_zero_iff _).mp (hw.disjoint k k' e) i hi
    rw [testBit_and] at this
    unfold has at h h'
    rw [h, h'] at this
    simp at this

theorem white_bits (p : PBB) (hw : PBB.WF p) (i : Nat) :
    testBit p.white i = (has p ⟨.pawn, .white⟩ i || has p ⟨.knight, .white⟩ i || has p ⟨.bishop, .white⟩ i
      || has p ⟨.rook, .white⟩ i || has p ⟨.queen, .white⟩ i || has p ⟨.king, .white⟩ i) := by
  rw [hw.white]; simp only [testBit_or]; rfl

theorem black_bits (p : PBB) (hw : PBB.WF p) (i : Nat) :
    testBit p.black i = (has p ⟨.pawn, .black⟩ i || has p ⟨.knight, .black⟩ i || has p ⟨.bishop, .black⟩ i
      || has p ⟨.rook, .black⟩ i || has p ⟨.queen, .black⟩ i || has p ⟨.king, .black⟩ i) := by
  rw [hw.black]; simp only [testBit_or]; rfl

theorem pieceAt_cases (p : PBB) (hw : PBB.WF p) (s : Square) (h : IR s) :
    (∃ k, p.pieceAt s = some k ∧ has p k s.idx = true) ∨ (p.pieceAt s = none ∧ ∀ k, has p k s.idx = false) := by
  rcases pick_total _ _ (fun k => has p k s.idx) (white_bits p hw _) (black_bits p hw _) with ⟨k, hk⟩ | ⟨h1, h2⟩
  · left; refine ⟨k, ?_, pick_some _ _ _ _ hk⟩
    unfold PBB.pieceAt; rw [pieceAt?_eq p s h, hk]
  · right; refine ⟨?_, h2⟩
    unfold PBB.pieceAt; rw [pieceAt?_eq p s h, h1]

theorem pieceAt_iff (p : PBB) (hw : PBB.WF p) (s : Square) (h : IR s) (k : Kind) :
    p.pieceAt s = some k ↔ has p k s.idx = true := by
  have hi := idx_lt s h
  rcases pieceAt_cases p hw s h with ⟨k', h1, h2⟩ | ⟨h1, h2⟩
  · rw [h1]; constructor
    · intro e; injection e with e; subst e; exact h2
    · intro e; rw [has_disjoint p hw _ hi _ _ h2 e]
  · rw [h1, h2 k]; simp

theorem pieceAt_none_iff (p : PBB) (hw : PBB.WF p) (s : Square) (h : IR s) :
    p.pieceAt s = none ↔ ∀ k, has p k s.idx = false := by
  rcases pieceAt_cases p hw s h with ⟨k', h1, h2⟩ | ⟨h1, h2⟩
  · rw [h1]; constructor
    · intro e; cases e
    · intro e; rw [e k'] at h2; cases h2
  · rw [h1]; simp [h2]

theorem sameColor_bit (b : Board) (hw : PBB.WF b.bbs) (c : Color) (s : Square) (h : IR s) :
    testBit (sameColorBB b c) s.idx = (match b.pieceAt s with | some k => k.color == c | none => false) := by
  have hi := idx_lt s h
  have hwb := white_bits b.bbs hw s.idx
  have hbb := black_bits b.bbs hw s.idx
  unfold Board.pieceAt
  rcases pieceAt_cases b.bbs hw s h with ⟨k, h1, h2⟩ | ⟨h1, h2⟩
  · rw [h1]
    have hd : ∀ k', k' ≠ k → has b.bbs k' s.idx = false := by
      intro k' hne
      cases hh : has b.bbs k' s.idx
      · rfl
      · exact absurd (has_disjoint b.bbs hw _ hi _ _ hh h2) hne
    rcases k with ⟨pk, kc⟩
    cases c <;> simp only [sameColorBB] <;> (first | rw [hwb] | rw [hbb]) <;>
      cases pk <;> cases kc <;> simp [h2, hd]
  · rw [h1]
    cases c <;> simp only [sameColorBB] <;> (first | rw [hwb] | rw [hbb]) <;> simp [h2]

theorem all_bit (b : Board) (hw : PBB.WF b.bbs) (s : Square) (h : IR s) :
    testBit b.bbs.all s.idx = (b.pieceAt s).isSome := by
  rw [hw.all, testBit_or]
  have h1 := sameColor_bit b hw .white s h
  have h2 := sameColor_bit b hw .black s h
  simp only [sameColorBB] at h1 h2
  rw [h1, h2]
  cases hp : b.pieceAt s with
  | none => rfl
  | some k => rcases k with ⟨pk, c⟩; cases c <;> rfl

theorem wf_of_set (p : PBB) (hw : PBB.WF p) (k : Kind) (v : BB) (hd : ∀ j, j ≠ k → v &&& p.get j = 0) :
    PBB.WF ((p.set k v).recompute k.color) := by
  refine ⟨?_, ?_, ?_, ?_⟩
  · intro j j' hjj
    rw [get_recompute, get_recompute, get_set, get_set]
    by_cases h1 : j = k
    · have h2 : ¬ j' = k := fun e => hjj (h1.trans e.symm)
      rw [if_pos h1, if_neg h2]; exact hd j' h2
    · rw [if_neg h1]
      by_cases h2 : j' = k
      · rw [if_pos h2, UInt64.and_comm]; exact hd j h1
      · rw [if_neg h2]; exact hw.disjoint j j' hjj
  · rcases k with ⟨pk, c⟩; cases pk <;> cases c <;> first | rfl | exact hw.white
  · rcases k with ⟨pk, c⟩; cases pk <;> cases c <;> first | rfl | exact hw.black
  · rcases k with ⟨pk, c⟩; cases pk <;> cases c <;> rfl

theorem has_set (p : PBB) (k j : Kind) (v : BB) (i : Nat) :
    has ((p.set k v).recompute k.color) j i = if j = k then testBit v i else has p j i := by
  unfold has; rw [get_recompute, get_set]; split <;> rfl

theorem idx_eq_iff (s s' : Square) (h : IR s) (h' : IR s') : s.idx = s'.idx ↔ s = s' := by
  refine ⟨fun e => ?_, fun e => by rw [e]⟩
  obtain ⟨r, f⟩ := s; obtain ⟨r', f'⟩ := s'
  simp only [Square.idx, IR] at *
  have : r = r' := by omega
  have : f = f' := by omega
  subst_vars; rfl

/-- the mailbox `v` with square `s` set to `o` -/
def upd (v : Square → Option Kind) (s : Square) (o : Option Kind) : Square → Option Kind :=
  fun t => if t = s then o else v t

theorem upd_self (v : Square → Option Kind) (s : Square) (o : Option Kind) : upd v s o s = o := if_pos rfl
theorem upd_ne (v : Square → Option Kind) {s t : Square} (o : Option Kind) (h : t ≠ s) : upd v s o t = v t := if_neg h

theorem upd_some {v : Square → Option Kind} {s t : Square} {o : Option Kind} {k : Kind} (h : upd v s o t = some k) :
    (t = s ∧ o = some k) ∨ v t = some k := by
  unfold upd at h
  split at h
  · exact Or.inl ⟨‹_›, h⟩
  · exact Or.inr h

/-- the invariant holds of `p`, and `v` is what stands on the squares of the board: what every lemma about `addPiece` /
    `removePiece` / `move_piece` takes and gives back, so that they chain -/
def Shows (p : PBB) (v : Square → Option Kind) : Prop := PBB.WF p ∧ ∀ s, IR s → p.pieceAt s = v s

theorem Shows.congr {p : PBB} {v w : Square → Option Kind} (h : Shows p v) (e : ∀ s, IR s → v s = w s) : Shows p w :=
  ⟨h.1, fun s hs => (h.2 s hs).trans (e s hs)⟩

theorem Shows.upd_same {p : PBB} {v : Square → Option Kind} (h : Shows p v) {s : Square} {o : Option Kind} (e : v s = o) :
    Shows p (upd v s o) :=
  h.congr fun t _ => by unfold upd; split <;> simp [*]

/-- writing bit `s` of the board of `k` (to `on`), when no other kind stands on `s`: the mailbox changes at `s` only -/
theorem Shows.setBit {p : PBB} {v : Square → Option Kind} (h : Shows p v) {s : Square} (hs : IR s) (k : Kind) (w : BB)
    (on : Bool) (hv : ∀ i, i < 64 → testBit w i = if i = s.idx then on else testBit (p.get k) i)
    (hk : ∀ j, j ≠ k → has p j s.idx = false) :
    Shows ((p.set k w).recompute k.color) (upd v s (if on then some k else none)) := by
  have hw := h.1
  have hwq : PBB.WF ((p.set k w).recompute k.color) := by
    refine wf_of_set p hw k w fun j hj => (eq_zero_iff _).mpr fun i hi => ?_
    rw [testBit_and, hv i hi]
    split
    · rename_i e; rw [e, show testBit (p.get j) s.idx = false from hk j hj, Bool.and_false]
    · rw [← testBit_and]; exact (eq_zero_iff _).mp (hw.disjoint k j (Ne.symm hj)) i hi
  refine ⟨hwq, fun s' h' => Option.ext fun j => ?_⟩
  rw [pieceAt_iff _ hwq s' h' j, has_set, hv _ (idx_lt s' h')]
  unfold upd
  by_cases e : s' = s
  · subst e
    rw [if_pos rfl, if_pos rfl]
    by_cases ej : j = k
    · subst ej; cases on <;> simp
    · rw [if_neg ej, hk j ej]; cases on <;> simp [Ne.symm ej]
  · rw [if_neg e, if_neg fun ee => e ((idx_eq_iff _ _ h' hs).mp ee), ← h.2 s' h', pieceAt_iff p hw s' h' j]
    split
    · rename_i ej; rw [ej]; rfl
    · rfl

theorem Shows.remove {p : PBB} {v : Square → Option Kind} (h : Shows p v) {s : Square} (hs : IR s) {k : Kind}
    (hk : v s = some k) : Shows (p.removePiece s k) (upd v s none) := by
  have hi := idx_lt s hs
  have hks := (pieceAt_iff p h.1 s hs k).mp ((h.2 s hs).trans hk)
  exact h.setBit hs k (p.get k &&& ~~~s.mask) false
    (fun i hi' => by
      rw [testBit_and, testBit_not, mask_eq s hs, testBit_bit _ _ hi' hi]
      by_cases e : i = s.idx <;> simp [e])
    fun j hj => by
      cases hh : has p j s.idx
      · rfl
      · exact absurd (has_disjoint p h.1 _ hi _ _ hh hks) hj

theorem Shows.add {p : PBB} {v : Square → Option Kind} (h : Shows p v) {s : Square} (hs : IR s) (k : Kind)
    (hn : v s = none) : Shows (p.addPiece s k) (upd v s (some k)) :=
  h.setBit hs k (p.get k ||| s.mask) true
    (fun i hi' => by
      rw [testBit_or, mask_eq s hs, testBit_bit _ _ hi' (idx_lt s hs)]
      by_cases e : i = s.idx <;> simp [e])
    fun j _ => (pieceAt_none_iff p h.1 s hs).mp ((h.2 s hs).trans hn) j

theorem ofIdx_IR (i : Nat) (h : i < 64) : IR (Square.ofIdx i) := by
  unfold IR Square.ofIdx; simp only; omega
theorem ofIdx_idx (i : Nat) : (Square.ofIdx i).idx = i := Nat.div_add_mod' i 8
theorem ofIdx_of_idx (s : Square) (h : IR s) : Square.ofIdx s.idx = s :=
  (idx_eq_iff _ _ (ofIdx_IR _ (idx_lt s h)) h).mp (ofIdx_idx _)

theorem idx_mod (s : Square) (hs : IR s) : s.idx % 8 = s.file := by
  unfold Square.idx; have := hs.2; omega
theorem idx_div (s : Square) (hs : IR s) : s.idx / 8 = s.rank := by
  unfold Square.idx; have := hs.2; omega

theorem mem_bitIndices (x : BB) (s : Nat) : s ∈ bitIndices x ↔ s < 64 ∧ testBit x s = true := by
  unfold bitIndices
  rw [List.mem_filter, List.mem_range]

theorem nodup_bitIndices (x : BB) : (bitIndices x).Nodup := List.nodup_range.filter _

theorem pbb_ext (p q : PBB) (hp : PBB.WF p) (hq : PBB.WF q)
    (h : ∀ s, IR s → p.pieceAt s = q.pieceAt s) : p = q := by
  have e : ∀ k, p.get k = q.get k := by
    intro k; apply eq_of_testBit; intro i hi
    have hs := ofIdx_IR i hi
    have h1 := pieceAt_iff p hp _ hs k
    have h2 := pieceAt_iff q hq _ hs k
    rw [h _ hs, ofIdx_idx] at h1
    rw [ofIdx_idx] at h2
    unfold has at h1 h2
    rw [Bool.eq_iff_iff]; exact h1.symm.trans h2
  have e1 : p.wp = q.wp := e ⟨.pawn, .white⟩
  have e2 : p.wk = q.wk := e ⟨.king, .white⟩
  have e3 : p.wq = q.wq := e ⟨.queen, .white⟩
  have e4 : p.wr = q.wr := e ⟨.rook, .white⟩
  have e5 : p.wb = q.wb := e ⟨.bishop, .white⟩
  have e6 : p.wn = q.wn := e ⟨.knight, .white⟩
  have f1 : p.bp = q.bp := e ⟨.pawn, .black⟩
  have f2 : p.bk = q.bk := e ⟨.king, .black⟩
  have f3 : p.bq = q.bq := e ⟨.queen, .black⟩
  have f4 : p.br = q.br := e ⟨.rook, .black⟩
  have f5 : p.bb = q.bb := e ⟨.bishop, .black⟩
  have f6 : p.bn = q.bn := e ⟨.knight, .black⟩
  have g1 : p.white = q.white := by rw [hp.white, hq.white, e1, e2, e3, e4, e5, e6]
  have g2 : p.black = q.black := by rw [hp.black, hq.black, f1, f2, f3, f4, f5, f6]
  have g3 : p.all = q.all := by rw [hp.all, hq.all, g1, g2]
  cases p; cases q; simp only [PBB.mk.injEq]
  exact ⟨e1, e2, e3, e4, e5, e6, f1, f2, f3, f4, f5, f6, g1, g2, g3⟩

theorem Shows.eq {p q : PBB} {v : Square → Option Kind} (h : Shows p v) (h' : Shows q v) : p = q :=
  pbb_ext p q h.1 h'.1 fun s hs => (h.2 s hs).trans (h'.2 s hs).symm

end RCE.Proofs.BoardPBB
