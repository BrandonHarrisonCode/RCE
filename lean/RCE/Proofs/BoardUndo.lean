import RCE.Proofs.BoardMake
/-! `unmake_move` analysed, and C02: taking back a generated move restores the board exactly. -/
namespace RCE.Proofs.BoardUndo
open RCE RCE.Proofs.BoardBits RCE.Proofs.BoardWF RCE.Proofs.BoardPBB RCE.Proofs.BoardGen RCE.Proofs.BoardMake RCE.Proofs.KeyParts
attribute [local irreducible] zPiece zCastle zEp zTurn

/-- the en-passant file that `unmake_move` restores: the one the record below the popped one implies -/
def epOf (rest : List Ply) : Option Nat :=
  match rest.head? with
  | some t => if t.isDoublePush then some t.dest.file else none
  | none => none

/-- the rook's part of taking back a castling move, on the bitboards -/
def castleUndoBBS (t : Color) (old : Ply) (p : PBB) : PBB :=
  if old.isCastles then
    match castleRookSquares old.dest with
    | some (rs, rd) => pundo p rs rd ⟨.rook, t⟩ none none false
    | none => p
  else p

theorem ite_bne_xor (a c : Bool) (k z : UInt64) :
    (if (a != c) = true then k ^^^ z else k) = k ^^^ (if a = true then z else 0) ^^^ (if c = true then z else 0) := by
  cases a <;> cases c <;> simp [UInt64.xor_assoc]

/-- the key after `unmake_move` -/
def unmakeKey (b : Board) (old : Ply) (rest : List Ply) : UInt64 :=
  b.zkey ^^^ wmove old.start old.dest old.piece old.promoted old.captured old.enPassant
    ^^^ castleW b.turn.opp old ^^^ rightsWord old.rights ^^^ rightsWord (rest.headD Ply.default).rights
    ^^^ epWord b.ep ^^^ epWord (epOf rest) ^^^ zTurn

/-! `unmake_move` cut along its own `let`s, as `make_move` is in `BoardMake` -/

/-- the rook's half of taking back a castling move -/
def castleUndoStep (b : Board) (old : Ply) : Board :=
  if old.isCastles then
    match castleRookSquares old.dest with
    | some (rs, rd) => b.undoMovePiece rs rd ⟨.rook, b.turn.opp⟩ none none false
    | none => b
  else b

/-- the words of the castling rights that differ between the popped record and the new top -/
def rightsRevert (key : UInt64) (old cur : Rights) : UInt64 :=
  let key := if old.wk != cur.wk then key ^^^ zCastle 0 else key
  let key := if old.wq != cur.wq then key ^^^ zCastle 1 else key
  let key := if old.bk != cur.bk then key ^^^ zCastle 2 else key
  if old.bq != cur.bq then key ^^^ zCastle 3 else key

/-- castling rights and en-passant file in the key, move number, side to move, repetition record -/
def undoEndStep (b : Board) (old : Ply) (rest : List Ply) : Board :=
  let key := rightsRevert b.zkey old.rights b.rights
  let key := match b.ep with | some f => key ^^^ zEp f | none => key
  let (ep, key) := match rest.head? with
    | some t => if t.isDoublePush then (some t.dest.file, key ^^^ zEp t.dest.file) else (none, key)
    | none => (none, key)
  let b := { b with zkey := key, ep := ep }
  let b := if b.turn == .white then { b with fullmove := b.fullmove - 1 } else b
  let b := b.switchTurn
  { b with posHist := b.posHist.erase b.zkey }

theorem unmakeMove?_steps (b : Board) (old : Ply) (rest : List Ply) (h : b.history = old :: rest) :
    b.unmakeMove? = some (undoEndStep (castleUndoStep
      (({ b with history := rest }).undoMovePiece old.start old.dest old.piece old.promoted old.captured old.enPassant) old)
      old rest) := by
  unfold Board.unmakeMove?
  rw [h]
  rfl

theorem castleUndoStep_eq (b : Board) (old : Ply) :
    castleUndoStep b old =
      { b with bbs := castleUndoBBS b.turn.opp old b.bbs, zkey := b.zkey ^^^ castleW b.turn.opp old } := by
  unfold castleUndoStep castleUndoBBS castleW
  cases old.isCastles
  · simp
  · rcases castleRookSquares old.dest with _ | ⟨rs, rd⟩ <;> simp [undoMovePiece_eq]

theorem rightsRevert_eq (k : UInt64) (old cur : Rights) : rightsRevert k old cur = k ^^^ rightsWord old ^^^ rightsWord cur := by
  -- stated about variables, so that `ac_rfl` does not look into the `if`s
  have e : ∀ k a b c d a' b' c' d' : UInt64,
      k ^^^ a ^^^ a' ^^^ b ^^^ b' ^^^ c ^^^ c' ^^^ d ^^^ d' = k ^^^ (a ^^^ b ^^^ c ^^^ d) ^^^ (a' ^^^ b' ^^^ c' ^^^ d') := by
    intros; ac_rfl
  unfold rightsRevert rightsWord
  simp only [ite_bne_xor]
  exact e ..

theorem undoEndStep_eq (b : Board) (old : Ply) (rest : List Ply) :
    undoEndStep b old rest =
      let key := b.zkey ^^^ rightsWord old.rights ^^^ rightsWord b.rights ^^^ epWord b.ep ^^^ epWord (epOf rest) ^^^ zTurn
      { b with
        turn := b.turn.opp
        fullmove := if b.turn == .white then b.fullmove - 1 else b.fullmove
        ep := epOf rest
        posHist := b.posHist.erase key
        zkey := key } := by
  unfold undoEndStep epOf
  rw [rightsRevert_eq]
  cases b.ep <;> rcases rest.head? with _ | t <;> dsimp only <;> (try cases t.isDoublePush) <;> cases h : b.turn <;>
    simp [epWord, Board.switchTurn]

theorem unmakeMove?_eq (b : Board) (old : Ply) (rest : List Ply) (h : b.history = old :: rest) :
    b.unmakeMove? = some
      { turn := b.turn.opp,
        fullmove := if b.turn == .white then b.fullmove - 1 else b.fullmove,
        ep := epOf rest,
        history := rest,
        posHist := b.posHist.erase (unmakeKey b old rest),
        bbs := castleUndoBBS b.turn.opp old (pundo b.bbs old.start old.dest old.piece old.promoted old.captured old.enPassant),
        zkey := unmakeKey b old rest } := by
  rw [unmakeMove?_steps b old rest h]
  simp only [undoMovePiece_eq, castleUndoStep_eq, undoEndStep_eq]
  rfl

/-- the mailbox after `undo_move_piece`: the updates of `viewMove` taken back in reverse order -/
def viewUndo (v : Square → Option Kind) (start dest : Square) (mv : Kind) (cap : Option Kind) (ep : Bool) :
    Square → Option Kind :=
  upd (upd (upd v dest none) (capSq start dest ep) cap) start (some mv)

/-- `undo_move_piece` as three point updates, in the reverse order of `move_piece` -/
theorem pundo_shows {q : PBB} {w : Square → Option Kind} (h : Shows q w) (start dest : Square) (hs : IR start)
    (hd : IR dest) (hne : start ≠ dest) (mv : Kind) (pr cap : Option Kind) (ep : Bool)
    (h1 : w dest = some (pr.getD mv)) (h2 : w start = none)
    (h3 : ep = true → w (capSq start dest ep) = none ∧ capSq start dest ep ≠ start ∧ capSq start dest ep ≠ dest) :
    Shows (pundo q start dest mv pr cap ep) (viewUndo w start dest mv cap ep) := by
  have hc := capSq_IR hs hd ep
  have hcs := capSq_ne_start hne fun h => (h3 h).2.1
  have f2 : upd w dest none (capSq start dest ep) = none := by
    cases ep
    · exact upd_self _ _ _
    · rw [upd_ne w none (h3 rfl).2.2]; exact (h3 rfl).1
  have f3 : upd (upd w dest none) (capSq start dest ep) cap start = none := by
    rw [upd_ne _ cap (Ne.symm hcs), upd_ne w none hne, h2]
  unfold viewUndo
  have g1 := h.remove hd h1
  cases cap with
  | none => exact (g1.upd_same f2).add hs _ f3
  | some c => exact (g1.add hc c f2).add hs _ f3

theorem pundo_pmove (p : PBB) (hw : PBB.WF p) {start dest : Square} {mv : Kind} {cap : Option Kind} {ep : Bool}
    (ok : MoveOK p.pieceAt start dest mv cap ep) (pr : Option Kind) :
    pundo (pmove p start dest mv pr cap ep) start dest mv pr cap ep = p := by
  obtain ⟨hs, hd, hne, hmv, hcap, hep⟩ := ok
  have h0 : Shows p p.pieceAt := ⟨hw, fun _ _ => rfl⟩
  have hcs := capSq_ne_start hne fun h => (hep h).2.1
  obtain ⟨h1, -⟩ := pmove_shows h0 ⟨hs, hd, hne, hmv, hcap, hep⟩ pr
  have h2 := pundo_shows h1 start dest hs hd hne mv pr cap ep (upd_self _ _ _)
    (by unfold viewMove; rw [upd_ne _ _ hne, upd_ne _ _ (Ne.symm hcs), upd_self])
    (fun h => ⟨by unfold viewMove; rw [upd_ne _ _ (hep h).2.2, upd_self], (hep h).2⟩)
  refine (h2.congr fun s _ => ?_).eq h0
  unfold viewUndo
  by_cases e1 : s = start
  · rw [e1, upd_self, hmv]
  · rw [upd_ne _ _ e1]
    by_cases e2 : s = capSq start dest ep
    · rw [e2, upd_self, hcap]
    · rw [upd_ne _ _ e2]
      by_cases e3 : s = dest
      · rw [e3, upd_self]
        cases ep
        · exact absurd e3 e2
        · exact (hep rfl).1.symm
      · rw [upd_ne _ _ e3]; exact viewMove_ne _ _ _ _ e1 e3 e2

/-- a castling move made and taken back (king first both times): eight point updates on four different squares,
    after which each of them holds what it held -/
theorem castle_roundtrip (p : PBB) (hw : PBB.WF p) (ks kd rs rd : Square)
    (iks : IR ks) (ikd : IR kd) (irs : IR rs) (ird : IR rd)
    (n1 : ks ≠ kd) (n2 : rs ≠ rd) (n3 : rs ≠ ks) (n4 : rs ≠ kd) (n5 : rd ≠ ks) (n6 : rd ≠ kd)
    (k r : Kind) (hk : p.pieceAt ks = some k) (hkd : p.pieceAt kd = none)
    (hr : p.pieceAt rs = some r) (hrd : p.pieceAt rd = none) :
    pundo (pundo (pmove (pmove p ks kd k none none false) rs rd r none none false) ks kd k none none false)
      rs rd r none none false = p := by
  have h0 : Shows p p.pieceAt := ⟨hw, fun _ _ => rfl⟩
  have n1' := n1.symm; have n2' := n2.symm; have n3' := n3.symm; have n4' := n4.symm
  have n5' := n5.symm; have n6' := n6.symm
  have h1 := (h0.remove iks hk).add ikd k (by simp [upd, n1', hkd])
  have h2 := (h1.remove irs (k := r) (by simp [upd, n3, n4, hr])).add ird r (by simp [upd, n2', n5, n6, hrd])
  have h3 := (h2.remove ikd (k := k) (by simp [upd, n4', n6'])).add iks k (by simp [upd, n1, n3', n5'])
  have h4 := (h3.remove ird (k := r) (by simp [upd, n5, n6])).add irs r (by simp [upd, n2, n3, n4])
  refine (h4.congr fun s _ => ?_).eq h0
  by_cases e1 : s = rs
  · simp [upd, e1, hr]
  · by_cases e2 : s = rd
    · simp [upd, e2, n2', hrd]
    · by_cases e3 : s = ks
      · simp [upd, e3, n3', n5', hk]
      · by_cases e4 : s = kd
        · simp [upd, e4, n1', n4', n6', hkd]
        · simp [upd, e1, e2, e3, e4]

theorem board_ext (a b : Board) (h1 : a.turn = b.turn) (h2 : a.fullmove = b.fullmove) (h3 : a.ep = b.ep)
    (h4 : a.history = b.history) (h5 : a.posHist = b.posHist) (h6 : a.bbs = b.bbs) (h7 : a.zkey = b.zkey) : a = b := by
  cases a; cases b; simp_all

theorem epOf_eq (b : Board) (hw : WF b) : epOf b.history = b.ep := by
  rw [hw.ep.1]
  have := hw.hist
  unfold epOf Board.top
  cases h : b.history with
  | nil => exact absurd h this
  | cons t rest => rfl

theorem unmake_make_gen (b : Board) (m : Ply) (hw : WF b) (g : Gen b m) : (b.makeMove m).unmakeMove? = some b := by
  have hkey : unmakeKey (b.makeMove m) { m with clock := newClock b m, rights := newRights m b.top.rights } b.history
      = b.zkey := by
    unfold unmakeKey
    rw [epOf_eq b hw, makeMove_zkey, makeMove_ep, makeMove_turn, opp_opp]
    have e : castleW b.turn { m with clock := newClock b m, rights := newRights m b.top.rights } = castleW b.turn m := rfl
    rw [e]
    dsimp only [Board.top]
    xor_solve
  rw [unmakeMove?_eq _ _ _ (makeMove_history b m), hkey]
  refine congrArg some (board_ext _ b ?_ ?_ ?_ ?_ ?_ ?_ ?_)
  · show (b.makeMove m).turn.opp = b.turn
    rw [makeMove_turn, opp_opp]
  · show (if (b.makeMove m).turn == Color.white then (b.makeMove m).fullmove - 1 else (b.makeMove m).fullmove) = b.fullmove
    rw [makeMove_turn, makeMove_fullmove]
    cases b.turn <;> simp [Color.opp]
  · exact epOf_eq b hw
  · rfl
  · show (b.makeMove m).posHist.erase b.zkey = b.posHist
    rw [makeMove_posHist]
    simp
  · show castleUndoBBS (b.makeMove m).turn.opp _ (pundo (b.makeMove m).bbs m.start m.dest m.piece m.promoted m.captured m.enPassant) = b.bbs
    rw [makeMove_turn, opp_opp, makeMove_bbs]
    unfold newBBS castleUndoBBS castleBBS
    show (if m.isCastles = true then _ else _) = _
    cases hc : m.isCastles
    · simp only [Bool.false_eq_true, if_false]
      exact pundo_pmove b.bbs hw.bbs (gen_moveOK b m g) m.promoted
    · obtain ⟨rs, rd, cs⟩ := castle_squares b m hw g hc
      simp only [if_true]
      show (match castleRookSquares m.dest with | some (rs, rd) => _ | none => _) = _
      rw [cs.crs]
      simp only
      have hcap : m.captured = none := by
        have := gen_cap b m g; rw [cs.noEp] at this; simp only [capSq, Bool.false_eq_true, if_false] at this
        rw [this, cs.dest_empty]
      rw [hcap, cs.noEp, cs.noPromo]
      exact castle_roundtrip b.bbs hw.bbs m.start m.dest rs rd g.irs g.ird cs.irs cs.ird g.ne cs.ne cs.rs_start
        cs.rs_dest cs.rd_start cs.rd_dest m.piece ⟨.rook, b.turn⟩ g.shape.piece cs.dest_empty cs.rook cs.rd_empty
  · rfl

theorem unmakeMove_makeMove (b : Board) (m : Ply) (hw : WF b) (hm : m ∈ b.allMoves) :
    (b.makeMove m).unmakeMove = b := by
  unfold Board.unmakeMove; rw [unmake_make_gen b m hw (gen_of_mem b hw m hm)]; rfl

theorem legalMoves_fold (b : Board) (hw : WF b) (l : List Ply) (hl : ∀ m ∈ l, m ∈ b.allMoves) (acc : List Ply) :
    l.foldl (fun (acc : List Ply × Board) m =>
      let (ok, b') := acc.2.isLegalMove m
      (if ok then acc.1 ++ [m] else acc.1, b')) (acc, b) =
    (acc ++ l.filter (fun m => !(b.makeMove m).isInCheck m.piece.color), b) := by
  induction l generalizing acc with
  | nil => simp
  | cons m l ih =>
    have hm := hl m (List.mem_cons_self)
    rw [List.foldl_cons]
    have h2 : (b.isLegalMove m).2 = b := unmakeMove_makeMove b m hw hm
    have h1 : (b.isLegalMove m).1 = !(b.makeMove m).isInCheck m.piece.color := rfl
    have step : (let (ok, b') := (acc, b).2.isLegalMove m
        ((if ok then (acc, b).1 ++ [m] else (acc, b).1), b')) =
        ((if (!(b.makeMove m).isInCheck m.piece.color) = true then acc ++ [m] else acc), b) := by
      show ((if (b.isLegalMove m).1 = true then acc ++ [m] else acc), (b.isLegalMove m).2) = _
      rw [h2, h1]
    rw [step, ih (fun x hx => hl x (List.mem_cons_of_mem _ hx))]
    rw [List.filter_cons]
    cases hc : (!(b.makeMove m).isInCheck m.piece.color) <;> simp

theorem legalMoves_pure' (b : Board) (hw : WF b) :
    (b.legalMoves).2 = b ∧ (b.legalMoves).1 = b.legalMovesPure := by
  unfold Board.legalMoves Board.legalMovesPure
  rw [legalMoves_fold b hw b.allMoves (fun m h => h) []]
  simp

theorem nested_aux (ms : List Ply) : ∀ (b : Board), WF b →
    (∀ i (h : i < ms.length), ms[i] ∈ ((ms.take i).foldl Board.makeMove b).allMoves) →
    WF (ms.foldl Board.makeMove b) ∧
    (List.range ms.length).foldl (fun acc _ => acc.unmakeMove) (ms.foldl Board.makeMove b) = b := by
  induction ms with
  | nil => intro b hw _; exact ⟨hw, rfl⟩
  | cons m ms ih =>
    intro b hw hms
    have hm : m ∈ b.allMoves := hms 0 (by simp)
    have hw1 : WF (b.makeMove m) := makeMove_wf b m hw (gen_of_mem b hw m hm)
    have htl : ∀ i (h : i < ms.length), ms[i] ∈ ((ms.take i).foldl Board.makeMove (b.makeMove m)).allMoves := by
      intro i h
      have := hms (i + 1) (by simp; omega)
      simpa using this
    obtain ⟨w, e⟩ := ih (b.makeMove m) hw1 htl
    refine ⟨w, ?_⟩
    rw [List.length_cons, List.range_succ, List.foldl_append, List.foldl_cons, List.foldl_cons, List.foldl_nil, e]
    exact unmakeMove_makeMove b m hw hm

end RCE.Proofs.BoardUndo
