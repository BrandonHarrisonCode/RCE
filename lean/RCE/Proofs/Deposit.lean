import RCE.Proofs.BoardBits
/-! `blockersFromIndex` ranges over exactly the submasks of the mask: theory of the bit deposit, phrased over
    the list of bit positions that the kernel computes from the mask (no theory of `bsf`/`popcount` needed). -/
namespace RCE.Proofs.Deposit
open RCE RCE.Proofs.BoardBits

/-- the successive `bsf` positions visited by `blockersFromIndexAux` -/
def posList : Nat → BB → List Nat
  | 0, _ => []
  | n+1, mask => bsf mask :: posList n (mask &&& (mask - 1))

def orBits : List Nat → BB
  | [] => 0
  | p :: ps => bit p ||| orBits ps

/-- all OR-combinations of the bits at the listed positions -/
def subsOf : List Nat → List BB
  | [] => [0]
  | p :: ps => subsOf ps ++ (subsOf ps).map (bit p ||| ·)

/-- `blockersFromIndexAux` over an explicit position list; the index is halved at every step, so that the bit tested is
    always bit 0 -/
def dep : Nat → List Nat → BB → BB
  | _, [], acc => acc
  | idx, p :: ps, acc => dep (idx / 2) ps (if idx.testBit 0 then acc ||| bit p else acc)

theorem and_one_shiftLeft (idx i : Nat) : (idx &&& (1 <<< i) != 0) = idx.testBit i := by
  rw [Nat.one_shiftLeft]
  have h : idx &&& 2 ^ i = if idx.testBit i then 2 ^ i else 0 := by
    apply Nat.eq_of_testBit_eq
    intro j
    rw [Nat.testBit_and, Nat.testBit_two_pow]
    by_cases hj : i = j
    · subst hj; cases idx.testBit i <;> simp
    · cases idx.testBit i <;> simp [hj]
  rw [h]
  cases idx.testBit i <;> simp

theorem bfiAux_eq_dep (idx : Nat) : ∀ (n i : Nat) (mask acc : BB),
    blockersFromIndexAux idx n i mask acc = dep (idx >>> i) (posList n mask) acc := by
  intro n
  induction n with
  | zero => intro i mask acc; rfl
  | succ n ih =>
    intro i mask acc
    simp only [blockersFromIndexAux, posList, dep, and_one_shiftLeft, Nat.testBit_shiftRight, Nat.add_zero]
    exact ih _ _ _

theorem bfi_eq_dep (idx : Nat) (mask : BB) :
    blockersFromIndex idx mask = dep idx (posList (popcount mask) mask) 0 :=
  bfiAux_eq_dep idx _ 0 _ _

theorem dep_acc : ∀ (ps : List Nat) (idx : Nat) (acc : BB), ∃ z ∈ subsOf ps, dep idx ps acc = acc ||| z := by
  intro ps
  induction ps with
  | nil => intro idx acc; exact ⟨0, by simp [subsOf], by simp [dep]⟩
  | cons p ps ih =>
    intro idx acc
    simp only [dep, subsOf]
    split
    · obtain ⟨z, hz, he⟩ := ih (idx / 2) (acc ||| bit p)
      refine ⟨bit p ||| z, ?_, ?_⟩
      · exact List.mem_append_right _ (List.mem_map.mpr ⟨z, hz, rfl⟩)
      · rw [he, UInt64.or_assoc]
    · obtain ⟨z, hz, he⟩ := ih (idx / 2) acc
      exact ⟨z, List.mem_append_left _ hz, he⟩

theorem dep_surj : ∀ (ps : List Nat) (z : BB), z ∈ subsOf ps →
    ∃ idx, idx < 2 ^ ps.length ∧ ∀ acc, dep idx ps acc = acc ||| z := by
  intro ps
  induction ps with
  | nil =>
    intro z hz
    simp [subsOf] at hz
    subst hz
    exact ⟨0, by simp, by intro acc; simp [dep]⟩
  | cons p ps ih =>
    intro z hz
    simp only [subsOf, List.mem_append, List.mem_map] at hz
    -- the index of `z` without the bit of `p`, doubled; plus one if `z` has that bit
    rcases hz with hz | ⟨z', hz', rfl⟩
    · obtain ⟨idx, hlt, h⟩ := ih z hz
      have h1 : (2 * idx).testBit 0 = false := by simp [Nat.testBit_zero]
      have h2 : 2 * idx / 2 = idx := by omega
      refine ⟨2 * idx, by rw [List.length_cons, Nat.pow_succ]; omega, fun acc => ?_⟩
      simp only [dep, h1, h2]
      exact h acc
    · obtain ⟨idx, hlt, h⟩ := ih z' hz'
      have h1 : (2 * idx + 1).testBit 0 = true := by simp [Nat.testBit_zero]
      have h2 : (2 * idx + 1) / 2 = idx := by omega
      refine ⟨2 * idx + 1, by rw [List.length_cons, Nat.pow_succ]; omega, fun acc => ?_⟩
      simp only [dep, h1, h2, if_true]
      rw [h, UInt64.or_assoc]

theorem testBit_orBits : ∀ (l : List Nat), (∀ t ∈ l, t < 64) → ∀ i, i < 64 →
    (testBit (orBits l) i = true ↔ i ∈ l) := by
  intro l
  induction l with
  | nil => intro _ i hi; simp [orBits, testBit_zero]
  | cons a l ih =>
    intro hl i hi
    have ha : a < 64 := hl a List.mem_cons_self
    have ih' := ih (fun t ht => hl t (List.mem_cons_of_mem _ ht)) i hi
    simp only [orBits, testBit_or, testBit_bit _ _ hi ha, Bool.or_eq_true, decide_eq_true_eq,
      List.mem_cons, ih']

theorem subsOf_sub : ∀ (ps : List Nat) (z : BB), z ∈ subsOf ps → z &&& orBits ps = z := by
  intro ps
  induction ps with
  | nil => intro z hz; simp [subsOf] at hz; subst hz; simp
  | cons p ps ih =>
    intro z hz
    simp only [subsOf, List.mem_append, List.mem_map] at hz
    rw [orBits, and_eq_self_iff]
    intro i hi hz'
    rw [testBit_or]
    rcases hz with hz | ⟨z', hz, rfl⟩
    · rw [(and_eq_self_iff _ _).mp (ih z hz) i hi hz', Bool.or_true]
    · rw [testBit_or, Bool.or_eq_true] at hz'
      rcases hz' with h | h
      · rw [h]; rfl
      · rw [(and_eq_self_iff _ _).mp (ih z' hz) i hi h, Bool.or_true]

theorem bit_mod (p : Nat) : bit p = bit (p % 64) := by
  unfold bit
  apply UInt64.toNat_inj.mp
  rw [UInt64.toNat_shiftLeft, UInt64.toNat_shiftLeft]
  congr 2
  show (p % 2 ^ 64) % 64 = ((p % 64) % 2 ^ 64) % 64
  omega

/-- `bit p` is a single bit whatever `p`: the shift amount wraps -/
theorem and_bit_cases (x : BB) (p : Nat) : x &&& bit p = 0 ∨ x &&& bit p = bit p := by
  rw [bit_mod p]
  have hq : p % 64 < 64 := Nat.mod_lt _ (by decide)
  cases hx : testBit x (p % 64)
  · left; simpa [hx] using and_bit_eq_zero x _ hq
  · right
    rw [UInt64.and_comm, and_eq_self_iff]
    intro i hi hb
    rw [testBit_bit _ _ hi hq, decide_eq_true_eq] at hb
    rw [hb, hx]

theorem mem_subsOf : ∀ (ps : List Nat) (x : BB), x &&& orBits ps = x → x ∈ subsOf ps := by
  intro ps
  induction ps with
  | nil =>
    intro x hx
    simp only [orBits, UInt64.and_zero] at hx
    simp [subsOf, ← hx]
  | cons p ps ih =>
    intro x hx
    rw [orBits, and_eq_self_iff] at hx
    simp only [subsOf, List.mem_append, List.mem_map]
    -- `x` without the bit of `p` is a submask of the rest; `x` is that, with or without the bit
    have hmem : x &&& ~~~bit p ∈ subsOf ps := ih _ <| (and_eq_self_iff _ _).mpr fun i hi h => by
      rw [testBit_and, testBit_not, Bool.and_eq_true, Bool.not_eq_true'] at h
      have := hx i hi h.1
      rwa [testBit_or, h.2, Bool.false_or] at this
    have e := and_or_and_not x (bit p)
    rcases and_bit_cases x p with h | h <;> rw [h] at e
    · rw [UInt64.zero_or] at e
      rw [← e]; exact Or.inl hmem
    · exact Or.inr ⟨_, hmem, e⟩

/-! `blockersFromIndex` ranges over exactly the submasks, for a mask whose scanned positions carry all its bits (which the
    per-square check evaluates) -/

theorem bfi_sub {mask : BB} (h : orBits (posList (popcount mask) mask) = mask) (idx : Nat) :
    blockersFromIndex idx mask &&& mask = blockersFromIndex idx mask := by
  obtain ⟨z, hz, he⟩ := dep_acc (posList (popcount mask) mask) idx 0
  rw [bfi_eq_dep, he, UInt64.zero_or]
  have := subsOf_sub _ z hz
  rwa [h] at this

theorem bfi_surj {mask x : BB} (h : orBits (posList (popcount mask) mask) = mask) (hx : x &&& mask = x) :
    ∃ idx, idx < 2 ^ (posList (popcount mask) mask).length ∧ blockersFromIndex idx mask = x := by
  obtain ⟨idx, hlt, hd⟩ := dep_surj _ x (mem_subsOf _ x (by rw [h]; exact hx))
  exact ⟨idx, hlt, by rw [bfi_eq_dep, hd, UInt64.zero_or]⟩

end RCE.Proofs.Deposit
