import RCE.Proofs.EvalSym
import RCE.Proofs.BoardMake
import RCE.Proofs.SearchDefs
import RCE.Model.Search
/-! The hypothesis `EvalBoundedFrom` of the search theorems, discharged for chess: the "promote-everything"
    material (`potential`: every pawn counted as a queen) never increases along generated moves, and the
    evaluation is bounded by it. -/
namespace RCE.Proofs.EvalBound
open RCE Gen RCE.Search RCE.Proofs.SearchDefs RCE.Proofs.BoardBits RCE.Proofs.BoardWF RCE.Proofs.BoardPBB
  RCE.Proofs.BoardGen RCE.Proofs.BoardMake RCE.Proofs.PopcountBswap RCE.Proofs.EvalSym

/-- two words that agree except possibly at bit `j` -/
theorem sumInd_update (x y : BB) (j : Nat) (n : Nat)
    (h : ∀ i, i < n → i ≠ j → testBit y i = testBit x i) :
    sumInd y n + (if j < n then ind x j else 0) = sumInd x n + (if j < n then ind y j else 0) := by
  induction n with
  | zero => simp [sumInd]
  | succ n ih =>
    have ih := ih (fun i hi hne => h i (by omega) hne)
    simp only [sumInd]
    by_cases e : n = j
    · subst e
      rw [if_neg (by omega), if_neg (by omega)] at ih
      rw [if_pos (by omega), if_pos (by omega)]
      omega
    · have hn : ind y n = ind x n := by unfold ind; rw [h n (by omega) e]
      by_cases l : j < n
      · rw [if_pos l, if_pos l] at ih
        rw [if_pos (by omega), if_pos (by omega)]
        omega
      · rw [if_neg l, if_neg l] at ih
        rw [if_neg (by omega), if_neg (by omega)]
        omega

theorem popcount_eq_sumInd (x : BB) : popcount x = sumInd x 64 := by
  unfold popcount; exact popcountAux_eq_sumInd x 64

theorem popcount_set (x : BB) (i : Nat) (hi : i < 64) (h : testBit x i = false) :
    popcount (x ||| bit i) = popcount x + 1 := by
  have := sumInd_update x (x ||| bit i) i 64 (fun k hk hne => by
    rw [testBit_or, testBit_bit _ _ hk hi]; simp [hne])
  rw [if_pos hi, if_pos hi] at this
  have h1 : ind x i = 0 := by unfold ind; rw [h]; rfl
  have h2 : ind (x ||| bit i) i = 1 := by
    unfold ind; rw [testBit_or, testBit_bit _ _ hi hi]; simp
  rw [popcount_eq_sumInd, popcount_eq_sumInd]; omega

theorem popcount_clear (x : BB) (i : Nat) (hi : i < 64) (h : testBit x i = true) :
    popcount (x &&& ~~~bit i) + 1 = popcount x := by
  have := sumInd_update x (x &&& ~~~bit i) i 64 (fun k hk hne => by
    rw [testBit_and, testBit_not, testBit_bit _ _ hk hi]; simp [hne])
  rw [if_pos hi, if_pos hi] at this
  have h1 : ind x i = 1 := by unfold ind; rw [h]; rfl
  have h2 : ind (x &&& ~~~bit i) i = 0 := by
    unfold ind; rw [testBit_and, testBit_not, testBit_bit _ _ hi hi]; simp
  rw [popcount_eq_sumInd, popcount_eq_sumInd]; omega

theorem popcount_set_same (x : BB) (i : Nat) (hi : i < 64) (h : testBit x i = true) :
    popcount (x ||| bit i) = popcount x := by
  congr 1; apply eq_of_testBit; intro k hk
  rw [testBit_or, testBit_bit _ _ hk hi]
  by_cases e : k = i
  · subst e; simp [h]
  · simp [e]

theorem popcount_clear_same (x : BB) (i : Nat) (hi : i < 64) (h : testBit x i = false) :
    popcount (x &&& ~~~bit i) = popcount x := by
  congr 1; apply eq_of_testBit; intro k hk
  rw [testBit_and, testBit_not, testBit_bit _ _ hk hi]
  by_cases e : k = i
  · subst e; simp [h]
  · simp [e]

/-- number of pieces of kind `k` -/
def cnt (p : PBB) (k : Kind) : Nat := popcount (p.get k)

theorem cnt_remove {p : PBB} {v : Square → Option Kind} (hp : Shows p v) {s : Square} (h : IR s) {k : Kind}
    (hk : v s = some k) (j : Kind) : cnt (p.removePiece s k) j + (if j = k then 1 else 0) = cnt p j := by
  have hi := idx_lt s h
  have hks : testBit (p.get k) s.idx = true := (pieceAt_iff p hp.1 s h k).mp ((hp.2 s h).trans hk)
  unfold cnt PBB.removePiece
  rw [get_recompute, get_set, mask_eq s h]
  by_cases e : j = k
  · subst e; rw [if_pos rfl, if_pos rfl]; exact popcount_clear _ _ hi hks
  · rw [if_neg e, if_neg e]; rfl

theorem cnt_add {p : PBB} {v : Square → Option Kind} (hp : Shows p v) {s : Square} (h : IR s) (k : Kind)
    (hk : v s = none) (j : Kind) : cnt (p.addPiece s k) j = cnt p j + (if j = k then 1 else 0) := by
  have hi := idx_lt s h
  have hks : testBit (p.get k) s.idx = false := (pieceAt_none_iff p hp.1 s h).mp ((hp.2 s h).trans hk) k
  unfold cnt PBB.addPiece
  rw [get_recompute, get_set, mask_eq s h]
  by_cases e : j = k
  · subst e; rw [if_pos rfl, if_pos rfl]; exact popcount_set _ _ hi hks
  · rw [if_neg e, if_neg e]; rfl

/-- `move_piece`: the mover leaves, the captured piece disappears, the mover (or its promotion) arrives;
    the steps are those of `pmove_shows` -/
theorem pmove_cnt {p : PBB} {v : Square → Option Kind} (h : Shows p v) {start dest : Square} {mv : Kind}
    {cap : Option Kind} {ep : Bool} (ok : MoveOK v start dest mv cap ep) (pr : Option Kind) (j : Kind) :
    cnt (pmove p start dest mv pr cap ep) j + (if j = mv then 1 else 0) + (if cap = some j then 1 else 0) =
      cnt p j + (if j = pr.getD mv then 1 else 0) := by
  obtain ⟨f2, f3⟩ := pmove_steps ok
  obtain ⟨hs, hd, -, hmv, -, -⟩ := ok
  have hc := capSq_IR hs hd ep
  have h1 := h.remove hs hmv
  have c1 := cnt_remove h hs hmv j
  cases cap with
  | none =>
    have c2 := cnt_add (h1.upd_same f2) hd (pr.getD mv) f3 j
    show cnt ((p.removePiece start mv).addPiece dest (pr.getD mv)) j + _ + _ = _
    rw [c2, if_neg (by simp : ¬ (none : Option Kind) = some j)]
    omega
  | some c =>
    have c2 := cnt_remove h1 hc f2 j
    have c3 := cnt_add (h1.remove hc f2) hd (pr.getD mv) f3 j
    show cnt (((p.removePiece start mv).removePiece (capSq start dest ep) c).addPiece dest (pr.getD mv)) j + _ + _ = _
    have : (if some c = some j then 1 else 0) = (if j = c then 1 else (0 : Nat)) := by
      by_cases e : j = c
      · subst e; simp
      · rw [if_neg e, if_neg (by intro h; injection h with h; exact e h.symm)]
    rw [c3, this]
    omega

theorem makeMove_cnt (b : Board) (m : Ply) (hw : WF b) (g : Gen b m) (j : Kind) :
    cnt (b.makeMove m).bbs j + (if j = m.piece then 1 else 0) + (if m.captured = some j then 1 else 0) =
      cnt b.bbs j + (if j = m.promoted.getD m.piece then 1 else 0) := by
  rw [makeMove_bbs]
  have c1 := pmove_cnt ⟨hw.bbs, fun _ _ => rfl⟩ (gen_moveOK b m g) m.promoted j
  unfold newBBS castleBBS
  cases hc : m.isCastles
  · simp only [Bool.false_eq_true, if_false]
    exact c1
  · obtain ⟨rs, rd, cs⟩ := castle_squares b m hw g hc
    simp only [if_true, cs.crs]
    have c2 := pmove_cnt (main_shows b m hw g).1 cs.rookOK none j
    rw [if_neg (by simp : ¬ (none : Option Kind) = some j), Option.getD_none] at c2
    omega

/-- what a side could ever own: every pawn counted as a queen -/
def potential (b : Board) (c : Color) : Nat :=
  queenValue * (cnt b.bbs ⟨.queen, c⟩ + cnt b.bbs ⟨.pawn, c⟩) + rookValue * cnt b.bbs ⟨.rook, c⟩
    + bishopValue * cnt b.bbs ⟨.bishop, c⟩ + knightValue * cnt b.bbs ⟨.knight, c⟩

/-- the bound of `EvalBoundedFrom` (`SearchDefs`), asked of the potential -/
def PotentialBounded (b : Board) : Prop := potential b .white ≤ 32511 ∧ potential b .black ≤ 32511

instance (b : Board) : Decidable (PotentialBounded b) := by unfold PotentialBounded; infer_instance

theorem potential_makeMove (b : Board) (m : Ply) (hw : WF b) (g : Gen b m) (c : Color) :
    potential (b.makeMove m) c ≤ potential b c := by
  have H := fun k => makeMove_cnt b m hw g ⟨k, c⟩
  simp only [potential, queenValue, rookValue, bishopValue, knightValue]
  cases hq : m.promoted with
  | none =>
    simp only [hq, Option.getD_none] at H
    have h1 := H .queen
    have h2 := H .pawn
    have h3 := H .rook
    have h4 := H .bishop
    have h5 := H .knight
    omega
  | some q =>
    -- a promotion: the mover is a pawn, which already counts as a queen, and the new piece has its colour
    have hpk : m.piece.pk = .pawn := by
      apply Classical.byContradiction; intro hn
      have := (g.nonpawn hn).2.2
      rw [hq] at this; cases this
    have hqc : q.color = m.piece.color := by rw [g.promo q hq, g.shape.color]
    rcases hmp : m.piece with ⟨pk, t⟩
    rw [hmp] at hpk hqc; simp only at hpk hqc; subst hpk
    rcases q with ⟨qk, qc⟩
    simp only at hqc; subst hqc
    simp only [hq, hmp, Option.getD_some, Kind.mk.injEq] at H
    have h1 := H .queen
    have h2 := H .pawn
    have h3 := H .rook
    have h4 := H .bishop
    have h5 := H .knight
    clear H
    have key : (if PK.queen = qk ∧ c = qc then 1 else 0) + (if PK.pawn = qk ∧ c = qc then 1 else 0) +
        (if PK.rook = qk ∧ c = qc then 1 else 0) + (if PK.bishop = qk ∧ c = qc then 1 else 0) +
        (if PK.knight = qk ∧ c = qc then 1 else 0) ≤ (if c = qc then 1 else 0) := by
      by_cases e : c = qc <;> cases qk <;> simp [e]
    simp only [reduceCtorEq, false_and, true_and, if_false] at h1 h2 h3 h4 h5
    omega

theorem material_le_potential (b : Board) (c : Color) : material b c ≤ potential b c := by
  simp only [material, potential, cnt, evalLoop0, List.foldl, pkOfIdx, queenValue, rookValue, bishopValue,
    knightValue, pawnValue]
  omega

theorem eval_of_potential (q : Board) (n : Nat) (hn : n ≤ 32767) (h1 : potential q .white ≤ n) (h2 : potential q .black ≤ n) :
    -(n : Int) ≤ q.evaluate ∧ q.evaluate ≤ n := by
  have m1 := material_le_potential q .white
  have m2 := material_le_potential q .black
  have hb : MaterialBounded q := ⟨by omega, by omega⟩
  rw [evaluate_eq_material_diff q hb]
  cases q.turn <;> simp only [Color.opp] <;> omega

theorem reach_inv (b : Board) (hw : WF b) (q : Board) (hr : Reach chessGame b q) :
    WF q ∧ potential q .white ≤ potential b .white ∧ potential q .black ≤ potential b .black := by
  induction hr with
  | refl => exact ⟨hw, Nat.le_refl _, Nat.le_refl _⟩
  | @step q m _ hm ih =>
    obtain ⟨wq, p1, p2⟩ := ih
    have hm' : m ∈ q.allMoves := hm
    have g := gen_of_mem q wq m hm'
    show WF (q.makeMove m) ∧ potential (q.makeMove m) .white ≤ _ ∧ potential (q.makeMove m) .black ≤ _
    exact ⟨makeMove_wf q m wq g, Nat.le_trans (potential_makeMove q m wq g .white) p1,
      Nat.le_trans (potential_makeMove q m wq g .black) p2⟩

/-- the starting position: 9·900 + 2·500 + 4·300 a side -/
theorem start_potential : potential Board.start .white = 10300 ∧ potential Board.start .black = 10300 := by
  decide +kernel

theorem start_potentialBounded : PotentialBounded Board.start := by
  rw [PotentialBounded, start_potential.1, start_potential.2]; decide

end RCE.Proofs.EvalBound
