import RCE.Proofs.PopcountBswap
import RCE.Proofs.BoardPBB
/-! C17: the mirrored board has the same piece counts, so the same evaluation; and under `MaterialBounded` no `i16` step
    saturates or wraps, so the evaluation is the material difference (`evaluate_eq_material_diff`). -/
namespace RCE.Proofs.EvalSym
open RCE Gen RCE.Proofs.PopcountBswap

/-- total material of colour `c`, in centipawns, as an unbounded natural number -/
def material (b : Board) (c : Color) : Nat :=
  evalLoop0.foldl (fun acc kv => acc + popcount (b.bbs.get ⟨pkOfIdx kv.1, c⟩) * kv.2) 0

def MaterialBounded (b : Board) : Prop := material b .white ≤ 32767 ∧ material b .black ≤ 32767

instance (b : Board) : Decidable (MaterialBounded b) := by unfold MaterialBounded; infer_instance

theorem get_mirror (b : Board) (k : PK) (c : Color) :
    popcount ((mirrorBoard b).bbs.get ⟨k, c.opp⟩) = popcount (b.bbs.get ⟨k, c⟩) := by
  cases c <;> cases k <;> simp only [mirrorBoard, PBB.get, Color.opp, popcount_bswap]

theorem evalLoop_mirror (b : Board) (c : Color) (loop : List (Nat × Nat)) (op : Int → Int → Int) (init : Int) :
    evalLoop (mirrorBoard b) c.opp loop op init = evalLoop b c loop op init := by
  unfold evalLoop
  simp only [get_mirror]

def mat (b : Board) (c : Color) (loop : List (Nat × Nat)) (acc : Nat) : Nat :=
  loop.foldl (fun acc kv => acc + popcount (b.bbs.get ⟨pkOfIdx kv.1, c⟩) * kv.2) acc

theorem material_eq (b : Board) (c : Color) : material b c = mat b c evalLoop0 0 := rfl

theorem mat_cons (b : Board) (c : Color) (kv : Nat × Nat) (loop : List (Nat × Nat)) :
    mat b c (kv :: loop) 0 = popcount (b.bbs.get ⟨pkOfIdx kv.1, c⟩) * kv.2 + mat b c loop 0 := by
  have acc_lemma : ∀ (l : List (Nat × Nat)) (acc : Nat), mat b c l acc = acc + mat b c l 0 := by
    intro l
    induction l with
    | nil => intro acc; simp [mat]
    | cons kv l ih =>
      intro acc
      simp only [mat, List.foldl_cons] at ih ⊢
      rw [ih, ih (0 + _)]; omega
  simp only [mat, List.foldl_cons] at acc_lemma ⊢
  rw [acc_lemma]; omega

theorem wrapI16_id (x : Int) (h0 : 0 ≤ x) (h1 : x ≤ 32767) : wrapI16 x = x := by
  unfold wrapI16; omega

theorem satI16_id (x : Int) (h0 : -32768 ≤ x) (h1 : x ≤ 32767) : satI16 x = x := by
  unfold satI16 i16Max i16Min
  rw [if_neg (by omega), if_neg (by omega)]

theorem evalLoop_cons (b : Board) (c : Color) (kv : Nat × Nat) (loop : List (Nat × Nat))
    (op : Int → Int → Int) (init : Int) :
    evalLoop b c (kv :: loop) op init =
      evalLoop b c loop op (op init (wrapI16 ((popcount (b.bbs.get ⟨pkOfIdx kv.1, c⟩) : Int) * (kv.2 : Int)))) := rfl

theorem evalLoop_add (b : Board) (c : Color) (loop : List (Nat × Nat)) :
    ∀ s : Int, 0 ≤ s → s + mat b c loop 0 ≤ 32767 → evalLoop b c loop satAdd s = s + mat b c loop 0 := by
  induction loop with
  | nil => intro s _ _; simp [evalLoop, mat]
  | cons kv loop ih =>
    intro s h0 h1
    rw [evalLoop_cons, mat_cons, ← Int.natCast_mul] at *
    generalize popcount (b.bbs.get ⟨pkOfIdx kv.1, c⟩) * kv.2 = t at *
    rw [wrapI16_id _ (by omega) (by omega), satAdd, satI16_id _ (by omega) (by omega),
      ih _ (by omega) (by omega)]
    omega

theorem evalLoop_sub (b : Board) (c : Color) (loop : List (Nat × Nat)) :
    ∀ s : Int, s ≤ 32767 → -32768 ≤ s - mat b c loop 0 → mat b c loop 0 ≤ 32767 →
      evalLoop b c loop satSub s = s - mat b c loop 0 := by
  induction loop with
  | nil => intro s _ _ _; simp [evalLoop, mat]
  | cons kv loop ih =>
    intro s h0 h1 h2
    rw [evalLoop_cons, mat_cons, ← Int.natCast_mul] at *
    generalize popcount (b.bbs.get ⟨pkOfIdx kv.1, c⟩) * kv.2 = t at *
    rw [wrapI16_id _ (by omega) (by omega), satSub, satI16_id _ (by omega) (by omega),
      ih _ (by omega) (by omega) (by omega)]
    omega

theorem material_opp_le (b : Board) (h : MaterialBounded b) (c : Color) : material b c ≤ 32767 := by
  cases c
  · exact h.1
  · exact h.2

/-- under `MaterialBounded` no step saturates or wraps: the result is the integer difference -/
theorem evaluate_eq_material_diff (b : Board) (h : MaterialBounded b) :
    b.evaluate = (material b b.turn : Int) - (material b b.turn.opp : Int) := by
  have h1 := material_opp_le b h b.turn
  have h2 := material_opp_le b h b.turn.opp
  have hl : evalLoop1 = evalLoop0 := by decide
  unfold Board.evaluate
  simp only [hl]
  simp only [material_eq] at *
  rw [evalLoop_add b _ _ 0 (by omega) (by omega), evalLoop_sub b _ _ _ (by omega) (by omega) (by omega)]
  omega

/-- 36 white queens and a white rook against a bare board: White to move saturates at 32767,
    Black to move at −32768 -/
def satBoard : Board :=
  { turn := .white, fullmove := 1, ep := none, history := [], posHist := [],
    bbs := { PBB.empty with wq := 0xFFFFFFFFF, wr := 0x1000000000 }, zkey := 0 }

end RCE.Proofs.EvalSym
