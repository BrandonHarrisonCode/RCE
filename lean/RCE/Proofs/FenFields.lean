import RCE.Model.Fen
import RCE.Spec.FenRender
import RCE.Proofs.Abs
/-! C07, part 1: splitting the rendered FEN into its fields, and the reader's treatment of the
    side / castling / en-passant / counter fields. -/
namespace RCE.Proofs.FenFields
open RCE RCE.Proofs.Abs

def NoWs (l : List Char) : Prop := ∀ c ∈ l, isAsciiWs c = false

instance (l : List Char) : Decidable (NoWs l) := by unfold NoWs; infer_instance

theorem NoWs.nil : NoWs [] := by intro c h; cases h
theorem NoWs.cons {c : Char} {l : List Char} (h : isAsciiWs c = false) (hl : NoWs l) : NoWs (c :: l) := by
  intro d hd
  rcases List.mem_cons.mp hd with rfl | hd
  · exact h
  · exact hl d hd
theorem NoWs.append {a b : List Char} (ha : NoWs a) (hb : NoWs b) : NoWs (a ++ b) := by
  intro d hd
  rcases List.mem_append.mp hd with h | h
  · exact ha d h
  · exact hb d h

theorem splitWsAux_acc (s : List Char) : ∀ (cur : List Char) (acc : List (List Char)),
    splitWsAux s cur acc = acc.reverse ++ splitWsAux s cur [] := by
  induction s with
  | nil =>
    intro cur acc
    simp only [splitWsAux]
    split <;> simp
  | cons c cs ih =>
    intro cur acc
    simp only [splitWsAux]
    split
    · rw [ih [] (if cur.isEmpty = true then acc else cur.reverse :: acc),
        ih [] (if cur.isEmpty = true then [] else [cur.reverse])]
      split <;> simp
    · exact ih (c :: cur) acc

theorem splitWsAux_run (a : List Char) (ha : NoWs a) : ∀ (rest cur : List Char) (acc : List (List Char)),
    splitWsAux (a ++ rest) cur acc = splitWsAux rest (a.reverse ++ cur) acc := by
  induction a with
  | nil => intro rest cur acc; rfl
  | cons c cs ih =>
    intro rest cur acc
    have hc : isAsciiWs c = false := ha c (List.mem_cons_self)
    have hcs : NoWs cs := fun d hd => ha d (List.mem_cons_of_mem _ hd)
    show splitWsAux (c :: (cs ++ rest)) cur acc = _
    simp only [splitWsAux, hc, Bool.false_eq_true, if_false]
    rw [ih hcs]
    simp

theorem splitWs_cons (a b : List Char) (ha : NoWs a) (hne : a ≠ []) :
    splitWs (a ++ ' ' :: b) = a :: splitWs b := by
  unfold splitWs
  rw [splitWsAux_run a ha]
  have h1 : isAsciiWs ' ' = true := by decide
  simp only [splitWsAux, h1, if_true, List.append_nil]
  have h2 : a.reverse.isEmpty = false := by
    cases a with
    | nil => exact absurd rfl hne
    | cons x xs => simp
  rw [h2]
  simp only [Bool.false_eq_true, if_false, List.reverse_reverse]
  rw [splitWsAux_acc]; rfl

theorem splitWs_single (a : List Char) (ha : NoWs a) (hne : a ≠ []) : splitWs a = [a] := by
  unfold splitWs
  have := splitWsAux_run a ha [] [] []
  rw [List.append_nil] at this
  rw [this]
  have h2 : (a.reverse ++ []).isEmpty = false := by
    cases a with
    | nil => exact absurd rfl hne
    | cons x xs => simp
  simp only [splitWsAux, h2]
  simp

def pnStep (acc : Option Nat) (c : Char) : Option Nat :=
  match acc with
  | none => none
  | some n => if c.isDigit then some (n * 10 + (c.toNat - 48)) else none

theorem parseNat_eq (s : List Char) :
    parseNat? s = if s.isEmpty then none else s.foldl pnStep (some 0) := rfl

theorem parseNat_foldl (s : List Char) (hd : ∀ c ∈ s, c.isDigit = true) : ∀ n : Nat,
    s.foldl pnStep (some n) = some (Nat.ofDigitChars 10 s n) := by
  induction s with
  | nil => intro n; rfl
  | cons c cs ih =>
    intro n
    have hc : c.isDigit = true := hd c List.mem_cons_self
    simp only [List.foldl_cons, pnStep, hc, if_true]
    rw [ih (fun d h => hd d (List.mem_cons_of_mem _ h))]
    rw [Nat.ofDigitChars_cons, Nat.mul_comm]
    rfl

theorem renderNat_eq (n : Nat) : Rules.renderNat n = Nat.toDigits 10 n := by
  unfold Rules.renderNat
  rw [Nat.toString_eq_repr, Nat.toList_repr]

theorem parseNat_render (n : Nat) : parseNat? (Rules.renderNat n) = some n := by
  rw [renderNat_eq, parseNat_eq]
  have hne : (Nat.toDigits 10 n).isEmpty = false := by
    cases h : Nat.toDigits 10 n with
    | nil => exact absurd h Nat.toDigits_ne_nil
    | cons x xs => rfl
  rw [hne]
  simp only [Bool.false_eq_true, if_false]
  rw [parseNat_foldl _ (fun c hc => Nat.isDigit_of_mem_toDigits (by decide) (by decide) hc)]
  rw [Nat.ofDigitChars_ten_toDigits]

theorem parseU16_render (n : Nat) (h : n < 65536) : parseU16? (Rules.renderNat n) = some n := by
  unfold parseU16?
  rw [parseNat_render]
  simp [h]

theorem renderNat_ne (n : Nat) : Rules.renderNat n ≠ [] := by
  rw [renderNat_eq]; exact Nat.toDigits_ne_nil

theorem isDigit_noWs (c : Char) (h : c.isDigit = true) : isAsciiWs c = false := by
  have h1 : 48 ≤ c.toNat ∧ c.toNat ≤ 57 := by
    unfold Char.isDigit at h
    simp only [Bool.and_eq_true, decide_eq_true_eq, ge_iff_le, UInt32.le_iff_toNat_le] at h
    exact h
  unfold isAsciiWs
  have hne : ∀ d : Char, d.toNat < 48 → (c == d) = false := by
    intro d hd
    rw [beq_eq_false_iff_ne]
    intro e; subst e; omega
  rw [hne ' ' (by decide), hne '\t' (by decide), hne '\n' (by decide), hne '\x0c' (by decide),
    hne '\r' (by decide)]
  rfl

theorem renderNat_noWs (n : Nat) : NoWs (Rules.renderNat n) := by
  rw [renderNat_eq]
  intro c hc
  exact isDigit_noWs c (Nat.isDigit_of_mem_toDigits (by decide) (by decide) hc)

def sideChar (p : Rules.Pos) : Char := if p.turn == .white then 'w' else 'b'

def concColor : Rules.Color → Color | .white => .white | .black => .black

theorem abs_concColor (c : Rules.Color) : absColor (concColor c) = c := by cases c <;> rfl

def readSide (f1 : List Char) : Option Color :=
  match f1.headD 'w' with
  | 'w' => some Color.white | 'b' => some Color.black | _ => none

theorem side_read (p : Rules.Pos) :
    (match [sideChar p].headD 'w' with
      | 'w' => some Color.white | 'b' => some Color.black | _ => none) = some (concColor p.turn) := by
  unfold sideChar
  cases p.turn <;> rfl

theorem side_noWs (p : Rules.Pos) : NoWs [sideChar p] := by
  unfold sideChar
  cases p.turn <;> decide

def readRights (f2 : List Char) : Option Rights :=
  f2.foldl (fun (acc : Option Rights) c => match acc with
    | none => none
    | some r => match c with
      | 'K' => some { r with wk := true } | 'k' => some { r with bk := true }
      | 'Q' => some { r with wq := true } | 'q' => some { r with bq := true }
      | '-' => some r | _ => none) (some ⟨false, false, false, false⟩)

theorem castling_read (p : Rules.Pos) :
    readRights (Rules.renderCastling p) = some ⟨p.wk, p.wq, p.bk, p.bq⟩ := by
  unfold Rules.renderCastling
  cases p.wk <;> cases p.wq <;> cases p.bk <;> cases p.bq <;> rfl

theorem castling_noWs (p : Rules.Pos) : NoWs (Rules.renderCastling p) := by
  unfold Rules.renderCastling
  cases p.wk <;> cases p.wq <;> cases p.bk <;> cases p.bq <;> decide

theorem castling_ne (p : Rules.Pos) : Rules.renderCastling p ≠ [] := by
  unfold Rules.renderCastling
  cases p.wk <;> cases p.wq <;> cases p.bk <;> cases p.bq <;> decide

def readEp (f3 : List Char) : Option (Option Nat) :=
  match f3.headD '-' with
  | '-' => some (none : Option Nat)
  | c => if 'a' ≤ c ∧ c ≤ 'h' then some (some (c.toNat - 97)) else none

theorem ep_fin : ∀ f : Fin 8,
    readEp [Char.ofNat (97 + f.val)] = some (some f.val) ∧ isAsciiWs (Char.ofNat (97 + f.val)) = false := by
  decide

theorem ep_read (p : Rules.Pos) (hv : ∀ f, p.ep = some f → f < 8) : readEp (Rules.renderEp p) = some p.ep := by
  unfold Rules.renderEp
  cases h : p.ep with
  | none => rfl
  | some f => exact (ep_fin ⟨f, hv f h⟩).1

theorem ep_noWs (p : Rules.Pos) (hv : ∀ f, p.ep = some f → f < 8) : NoWs (Rules.renderEp p) := by
  unfold Rules.renderEp
  cases h : p.ep with
  | none => exact NoWs.cons (by decide) NoWs.nil
  | some f =>
    refine NoWs.cons (ep_fin ⟨f, hv f h⟩).2 (NoWs.cons ?_ NoWs.nil)
    cases p.turn <;> decide

theorem ep_ne (p : Rules.Pos) : Rules.renderEp p ≠ [] := by
  unfold Rules.renderEp
  cases p.ep <;> simp

end RCE.Proofs.FenFields
