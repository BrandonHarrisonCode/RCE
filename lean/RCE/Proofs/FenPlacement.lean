import RCE.Proofs.FenFields
import RCE.Proofs.BoardPBB
/-! C07, part 2: the placement field.  `renderPlacement` (ranks 8→1, run-length digits) is consumed by
    `placementAux` into a `PBB` that has, for every square, exactly the bit of the piece standing there. -/
namespace RCE.Proofs.FenPlacement
open RCE RCE.Proofs.Abs RCE.Proofs.FenFields RCE.Proofs.BoardBits RCE.Proofs.BoardWF RCE.Proofs.BoardPBB

def concPK : Rules.Kind → PK
  | .pawn => .pawn | .king => .king | .queen => .queen | .rook => .rook | .bishop => .bishop | .knight => .knight

def concPiece (pc : Rules.Piece) : Kind := ⟨concPK pc.kind, concColor pc.color⟩

theorem abs_conc (pc : Rules.Piece) : absPiece (concPiece pc) = pc := by
  rcases pc with ⟨c, k⟩; cases c <;> cases k <;> rfl

theorem conc_abs (k : Kind) : concPiece (absPiece k) = k := by
  rcases k with ⟨pk, c⟩; cases c <;> cases pk <;> rfl

theorem eq_abs_iff (pc : Rules.Piece) (k : Kind) : pc = absPiece k ↔ concPiece pc = k := by
  constructor
  · intro h; rw [h, conc_abs]
  · intro h; rw [← h, abs_conc]

theorem conc_eq_iff (o : Option Rules.Piece) (k : Kind) : o.map concPiece = some k ↔ o = some (absPiece k) := by
  cases o with
  | none => simp
  | some pc =>
    simp only [Option.map_some, Option.some.injEq]
    exact (eq_abs_iff pc k).symm

theorem pieceChar_read (pc : Rules.Piece) :
    pieceOfChar (Rules.pieceChar pc) = some (concPiece pc) ∧ isAsciiWs (Rules.pieceChar pc) = false := by
  rcases pc with ⟨c, k⟩; cases c <;> cases k <;> decide

/-- the run-length digit -/
def dch (e : Nat) : Char := Char.ofNat (48 + e)

theorem dch_fin : ∀ e : Fin 9, 0 < e.val →
    pieceOfChar (dch e.val) = none ∧ ('1' ≤ dch e.val ∧ dch e.val ≤ '8') ∧ (dch e.val).toNat - 48 = e.val ∧
    isAsciiWs (dch e.val) = false := by decide

theorem dch_ok (e : Nat) (h0 : 0 < e) (h8 : e ≤ 8) :
    pieceOfChar (dch e) = none ∧ ('1' ≤ dch e ∧ dch e ≤ '8') ∧ (dch e).toNat - 48 = e ∧ isAsciiWs (dch e) = false :=
  dch_fin ⟨e, by omega⟩ h0

/-- run-length encoding of the `n` squares `sq, sq+1, …` with `e` empty squares pending -/
def rr (g : Nat → Option Rules.Piece) : Nat → Nat → Nat → List Char
  | _, 0, e => if e > 0 then [dch e] else []
  | sq, n+1, e => match g sq with
    | some pc => (if e > 0 then [dch e] else []) ++ Rules.pieceChar pc :: rr g (sq+1) n 0
    | none => rr g (sq+1) n (e+1)

def rankFin (x : List Char × Nat) : List Char := if x.2 > 0 then x.1 ++ [dch x.2] else x.1

theorem rank_fold (g : Nat → Option Rules.Piece) (step : List Char × Nat → Nat → List Char × Nat) (base : Nat)
    (hs : ∀ acc f pc, g (base + f) = some pc →
      step acc f = ((if acc.2 > 0 then acc.1 ++ [dch acc.2] else acc.1) ++ [Rules.pieceChar pc], 0))
    (hn : ∀ acc f, g (base + f) = none → step acc f = (acc.1, acc.2 + 1)) :
    ∀ (n f : Nat) (cs : List Char) (e : Nat),
    rankFin ((List.range' f n).foldl step (cs, e)) = cs ++ rr g (base + f) n e := by
  intro n
  induction n with
  | zero =>
    intro f cs e
    simp only [List.range'_zero, List.foldl_nil, rankFin, rr]
    split <;> simp
  | succ n ih =>
    intro f cs e
    rw [List.range'_succ, List.foldl_cons, rr]
    cases h : g (base + f) with
    | none =>
      rw [hn _ _ h]
      simp only
      rw [ih]; rfl
    | some pc =>
      rw [hs _ _ _ h]
      simp only
      rw [ih]
      split <;> simp [Nat.add_assoc]

theorem renderRank_rr (p : Rules.Pos) (r : Nat) : Rules.renderRank p r = rr p.at (r * 8) 8 0 := by
  unfold Rules.renderRank
  simp only
  rw [List.range_eq_range']
  have key := fun step hs hn => rank_fold p.at step (r * 8) hs hn 8 0 [] 0
  simp only [rankFin, List.nil_append, Nat.add_zero] at key
  apply key
  · intro acc f pc h; simp only [h]; rfl
  · intro acc f h; simp only [h]

theorem rr_noWs (g : Nat → Option Rules.Piece) : ∀ (n sq e : Nat), e + n ≤ 8 → NoWs (rr g sq n e) := by
  intro n
  induction n with
  | zero =>
    intro sq e h
    unfold rr
    split
    · exact NoWs.cons (dch_ok e (by omega) (by omega)).2.2.2 NoWs.nil
    · exact NoWs.nil
  | succ n ih =>
    intro sq e h
    rw [rr]
    cases hg : g sq with
    | none => exact ih _ _ (by omega)
    | some pc =>
      simp only
      refine NoWs.append ?_ (NoWs.cons (pieceChar_read pc).2 (ih _ _ (by omega)))
      split
      · exact NoWs.cons (dch_ok e (by omega) (by omega)).2.2.2 NoWs.nil
      · exact NoWs.nil

theorem place_piece (c : Char) (cs : List Char) (idx : Nat) (b : PBB) (k : Kind)
    (hi : idx / 8 ≤ 7) (hc : pieceOfChar c = some k) :
    placementAux (c :: cs) idx b =
      placementAux cs (idx + 1) (b.set k (b.get k ||| bit (8 * (7 - idx / 8) + idx % 8))) := by
  rw [placementAux]
  have : ¬ idx / 8 > 7 := by omega
  simp only [this, if_false, hc]

theorem place_digit (c : Char) (cs : List Char) (idx : Nat) (b : PBB)
    (hi : idx / 8 ≤ 7) (hc : pieceOfChar c = none) (hd : '1' ≤ c ∧ c ≤ '8') :
    placementAux (c :: cs) idx b = placementAux cs (idx + (c.toNat - 48)) b := by
  rw [placementAux]
  have : ¬ idx / 8 > 7 := by omega
  simp only [this, if_false, hc, hd, and_self, if_true]

theorem place_slash (cs : List Char) (idx : Nat) (b : PBB) (hi : idx / 8 ≤ 7) (h0 : idx ≠ 0) :
    placementAux ('/' :: cs) idx b = placementAux cs idx b := by
  rw [placementAux]
  have : ¬ idx / 8 > 7 := by omega
  have h1 : pieceOfChar '/' = none := by decide
  have h2 : ¬ ('1' ≤ '/' ∧ '/' ≤ '8') := by decide
  have h3 : (idx == 0) = false := by simpa using h0
  simp only [this, if_false, h1, h2, h3, beq_self_eq_true, if_true]
  rfl

def put1 (b : PBB) (sq : Nat) : Option Rules.Piece → PBB
  | some pc => b.set (concPiece pc) (b.get (concPiece pc) ||| bit sq)
  | none => b

/-- the boards after writing the pieces of the `n` squares `sq, sq+1, …` -/
def putRange (g : Nat → Option Rules.Piece) : Nat → Nat → PBB → PBB
  | _, 0, b => b
  | sq, n+1, b => putRange g (sq+1) n (put1 b sq (g sq))

theorem place_dch (e : Nat) (cs : List Char) (row f : Nat) (b : PBB) (hr : row ≤ 7) (hf : f + e ≤ 8) :
    placementAux ((if e > 0 then [dch e] else []) ++ cs) (8 * row + f) b = placementAux cs (8 * row + f + e) b := by
  split
  · rename_i h0
    obtain ⟨h1, h2, h3, _⟩ := dch_ok e h0 (by omega)
    show placementAux (dch e :: cs) _ _ = _
    rw [place_digit _ _ _ _ (by omega) h1 h2, h3]
  · have : e = 0 := by omega
    subst this; rfl

theorem place_rr (g : Nat → Option Rules.Piece) (rest : List Char) (row : Nat) (hr : row ≤ 7) :
    ∀ (n f e : Nat) (b : PBB), f + e + n ≤ 8 →
    placementAux (rr g (8 * (7 - row) + f + e) n e ++ rest) (8 * row + f) b =
      placementAux rest (8 * row + f + e + n) (putRange g (8 * (7 - row) + f + e) n b) := by
  intro n
  induction n with
  | zero =>
    intro f e b h
    rw [rr, putRange]
    exact place_dch e rest row f b hr (by omega)
  | succ n ih =>
    intro f e b h
    rw [rr, putRange]
    cases hg : g (8 * (7 - row) + f + e) with
    | none =>
      simp only
      have := ih f (e + 1) b (by omega)
      rw [show 8 * (7 - row) + f + (e + 1) = 8 * (7 - row) + f + e + 1 from by omega] at this
      rw [this]
      congr 1; omega
    | some pc =>
      simp only
      rw [List.append_assoc, place_dch e _ row f b hr (by omega)]
      show placementAux (Rules.pieceChar pc :: (rr g _ n 0 ++ rest)) _ _ = _
      rw [place_piece _ _ _ _ (concPiece pc) (by omega) (pieceChar_read pc).1]
      have e1 : 8 * (7 - (8 * row + f + e) / 8) + (8 * row + f + e) % 8 = 8 * (7 - row) + f + e := by omega
      rw [e1]
      have := ih (f + e + 1) 0 (b.set (concPiece pc) (b.get (concPiece pc) ||| bit (8 * (7 - row) + f + e))) (by omega)
      rw [show 8 * (7 - row) + (f + e + 1) + 0 = 8 * (7 - row) + f + e + 1 from by omega,
        show 8 * row + (f + e + 1) = 8 * row + f + e + 1 from by omega] at this
      rw [this]
      congr 1; omega

/-- one whole rank (`r` counted from rank 1 = 0), read at `idx = 8 * (7 - r)` -/
theorem place_rank (p : Rules.Pos) (r : Nat) (hr : r ≤ 7) (rest : List Char) (b : PBB) :
    placementAux (Rules.renderRank p r ++ rest) (8 * (7 - r)) b =
      placementAux rest (8 * (7 - r) + 8) (putRange p.at (8 * r) 8 b) := by
  have := place_rr p.at rest (7 - r) (by omega) 8 0 0 b (by omega)
  rw [show 8 * (7 - (7 - r)) + 0 + 0 = 8 * r from by omega] at this
  rw [renderRank_rr, Nat.mul_comm r 8]
  exact this

theorem put1_bits (o : Option Rules.Piece) (b : PBB) (k : Kind) (sq i : Nat) (hs : sq < 64) (hi : i < 64) :
    testBit ((put1 b sq o).get k) i = (testBit (b.get k) i || (decide (i = sq) && decide (o = some (absPiece k)))) := by
  cases o with
  | none => simp [put1]
  | some pc =>
    simp only [put1, get_set, Option.some.injEq, eq_abs_iff, eq_comm (a := concPiece pc)]
    split
    · rename_i e; subst e
      rw [testBit_or, testBit_bit _ _ hi hs]; simp
    · rename_i e; simp [e]

theorem putRange_bits (g : Nat → Option Rules.Piece) (k : Kind) (i : Nat) (hi : i < 64) :
    ∀ (n sq : Nat) (b : PBB), sq + n ≤ 64 →
    testBit ((putRange g sq n b).get k) i =
      (testBit (b.get k) i || (decide (sq ≤ i ∧ i < sq + n) && decide (g i = some (absPiece k)))) := by
  intro n
  induction n with
  | zero => intro sq b _; simp [putRange]; omega
  | succ n ih =>
    intro sq b h
    rw [putRange, ih _ _ (by omega), put1_bits _ _ _ _ _ (by omega) hi, Bool.or_assoc]
    congr 1
    by_cases e : i = sq
    · subst e; simp
    · have : (sq + 1 ≤ i ∧ i < sq + 1 + n) ↔ (sq ≤ i ∧ i < sq + (n + 1)) := by omega
      simp [e, this]

/-- the ranks `r, r - 1, …, 0` of the placement field -/
def ranksFrom (p : Rules.Pos) : Nat → List Char
  | 0 => Rules.renderRank p 0
  | r + 1 => Rules.renderRank p (r + 1) ++ '/' :: ranksFrom p r

def placedFrom (p : Rules.Pos) : Nat → PBB → PBB
  | 0, b => putRange p.at 0 8 b
  | r + 1, b => placedFrom p r (putRange p.at (8 * (r + 1)) 8 b)

def placed (p : Rules.Pos) : PBB := placedFrom p 7 PBB.empty

theorem renderPlacement_eq (p : Rules.Pos) : Rules.renderPlacement p = ranksFrom p 7 := by
  unfold Rules.renderPlacement
  have : (List.range 8).reverse = [7, 6, 5, 4, 3, 2, 1, 0] := by decide
  rw [this]
  simp [List.intercalate, ranksFrom]

theorem place_ranks (p : Rules.Pos) : ∀ (r : Nat), r ≤ 7 → ∀ b : PBB,
    placementAux (ranksFrom p r) (8 * (7 - r)) b = some (placedFrom p r b)
  | 0, _, b => by
    have := place_rank p 0 (Nat.zero_le _) [] b
    rwa [List.append_nil] at this
  | r + 1, h, b => by
    rw [ranksFrom, place_rank p (r + 1) h, place_slash _ _ _ (by omega) (by omega),
      show 8 * (7 - (r + 1)) + 8 = 8 * (7 - r) by omega]
    exact place_ranks p r (by omega) _

theorem placement_read (p : Rules.Pos) :
    placementAux (Rules.renderPlacement p) 0 PBB.empty = some (placed p) := by
  rw [renderPlacement_eq]
  exact place_ranks p 7 (Nat.le_refl _) _

theorem renderRank_noWs (p : Rules.Pos) (r : Nat) : NoWs (Rules.renderRank p r) := by
  rw [renderRank_rr]; exact rr_noWs _ _ _ _ (by omega)

theorem ranksFrom_noWs (p : Rules.Pos) : ∀ r, NoWs (ranksFrom p r)
  | 0 => renderRank_noWs p 0
  | r + 1 => NoWs.append (renderRank_noWs p _) (NoWs.cons (by decide) (ranksFrom_noWs p r))

theorem placement_noWs (p : Rules.Pos) : NoWs (Rules.renderPlacement p) := by
  rw [renderPlacement_eq]; exact ranksFrom_noWs p 7

theorem placement_ne (p : Rules.Pos) : Rules.renderPlacement p ≠ [] := by
  rw [renderPlacement_eq]
  intro h
  have := congrArg List.length h
  simp [ranksFrom] at this

theorem placedFrom_bits (p : Rules.Pos) (k : Kind) (i : Nat) (hi : i < 64) : ∀ (r : Nat), r ≤ 7 → ∀ b : PBB,
    testBit ((placedFrom p r b).get k) i =
      (testBit (b.get k) i || (decide (i < 8 * (r + 1)) && decide (p.at i = some (absPiece k))))
  | 0, _, b => by
    rw [placedFrom, putRange_bits p.at k i hi _ _ _ (by omega)]
    simp
  | r + 1, h, b => by
    rw [placedFrom, placedFrom_bits p k i hi r (by omega), putRange_bits p.at k i hi _ _ _ (by omega), Bool.or_assoc,
      ← Bool.and_or_distrib_right]
    congr 2
    rw [Bool.eq_iff_iff]
    simp only [Bool.or_eq_true, decide_eq_true_eq]
    omega

theorem placed_bits (p : Rules.Pos) (k : Kind) (i : Nat) (hi : i < 64) :
    testBit ((placed p).get k) i = decide (p.at i = some (absPiece k)) := by
  have he : PBB.empty.get k = 0 := by rcases k with ⟨pk, c⟩; cases pk <;> cases c <;> rfl
  rw [placed, placedFrom_bits p k i hi 7 (Nat.le_refl _), he, testBit_zero, decide_eq_true (by omega : i < 8 * (7 + 1))]
  simp

theorem get_withUnions (b : PBB) (k : Kind) : b.withUnions.get k = b.get k := by
  unfold PBB.withUnions; rw [get_recompute, get_recompute]

/-- `build()` establishes the invariant whenever the twelve boards are pairwise disjoint -/
theorem wf_withUnions (b : PBB) (hd : ∀ k k' : Kind, k ≠ k' → b.get k &&& b.get k' = 0) : PBB.WF b.withUnions :=
  ⟨fun k k' hne => by rw [get_withUnions, get_withUnions]; exact hd k k' hne, rfl, rfl, rfl⟩

theorem placed_wf (p : Rules.Pos) : PBB.WF (placed p).withUnions := by
  refine wf_withUnions _ fun k k' hne => (eq_zero_iff _).mpr fun i hi => ?_
  rw [testBit_and, placed_bits p k i hi, placed_bits p k' i hi, Bool.eq_false_iff]
  simp only [ne_eq, Bool.and_eq_true, decide_eq_true_eq, not_and]
  intro e1 e2
  rw [e1] at e2
  exact hne (by rw [← conc_abs k, Option.some.inj e2, conc_abs])

theorem placed_pieceAt' (p : Rules.Pos) (i : Nat) (hi : i < 64) :
    (placed p).withUnions.pieceAt (Square.ofIdx i) = (p.at i).map concPiece := by
  apply Option.ext
  intro k
  rw [pieceAt_iff _ (placed_wf p) _ (ofIdx_IR i hi) k, conc_eq_iff]
  unfold has
  rw [get_withUnions, ofIdx_idx, placed_bits p k i hi, decide_eq_true_eq]

theorem placed_pieceAt (p : Rules.Pos) (i : Nat) (hi : i < 64) :
    ((placed p).withUnions.pieceAt (Square.ofIdx i)).map absPiece = p.at i := by
  rw [placed_pieceAt' p i hi]
  cases p.at i <;> simp [abs_conc]

end RCE.Proofs.FenPlacement
