import RCE.Model.Eval
import RCE.Proofs.FenRoundtrip
import RCE.Props.C03
import RCE.Props.C04
/-! C07, last clause: a position loaded from FEN "from then on behaves (legal moves, keys, bookkeeping)
    identically to the same position reached by play".

    A FEN text cannot carry the undo stack below its top record, nor the repetition record.  `SameNow b b'` is agreement
    on everything else; re-loading `Rules.render (abs b)` gives such a board (`loaded_equals_played`), every function
    of the present position agrees on such boards, and `makeMove` keeps the relation (`sameNow_makeMove`). -/
namespace RCE.Proofs.FenPlayed
open RCE RCE.Proofs.BoardWF RCE.Proofs.Abs RCE.Proofs.BoardPBB RCE.Proofs.FenRoundtrip RCE.Proofs.BoardMake RCE.Proofs.KeyParts

/-- everything the engine reads about the present position (all fields except the two history lists, of
    which only the top record's rights and clock count) -/
def SameNow (b b' : Board) : Prop :=
  b'.bbs = b.bbs ∧ b'.turn = b.turn ∧ b'.fullmove = b.fullmove ∧ b'.ep = b.ep ∧ b'.rights = b.rights ∧
    b'.halfmove = b.halfmove

def SameNowK (b b' : Board) : Prop := SameNow b b' ∧ b'.zkey = b.zkey

theorem SameNow.refl (b : Board) : SameNow b b := ⟨rfl, rfl, rfl, rfl, rfl, rfl⟩
theorem SameNow.symm {b b' : Board} (h : SameNow b b') : SameNow b' b :=
  ⟨h.1.symm, h.2.1.symm, h.2.2.1.symm, h.2.2.2.1.symm, h.2.2.2.2.1.symm, h.2.2.2.2.2.symm⟩
theorem SameNow.trans {a b c : Board} (h : SameNow a b) (h' : SameNow b c) : SameNow a c :=
  ⟨h'.1.trans h.1, h'.2.1.trans h.2.1, h'.2.2.1.trans h.2.2.1, h'.2.2.2.1.trans h.2.2.2.1,
   h'.2.2.2.2.1.trans h.2.2.2.2.1, h'.2.2.2.2.2.trans h.2.2.2.2.2⟩

theorem rights_ext (r r' : Rights) (h1 : r.wk = r'.wk) (h2 : r.wq = r'.wq) (h3 : r.bk = r'.bk) (h4 : r.bq = r'.bq) :
    r = r' := by
  cases r; cases r'
  simp only at h1 h2 h3 h4
  subst h1 h2 h3 h4
  rfl

theorem pieceAt_of_abs (b b' : Board) (h : abs b' = abs b) (s : Square) (hs : IR s) : b'.pieceAt s = b.pieceAt s := by
  apply Option.map_injective fun _ _ e => (MoveGen.absPiece_inj _ _).mp e
  rw [← MoveGen.abs_at_sq b' s hs, ← MoveGen.abs_at_sq b s hs, h]

/-- `abs` forgets nothing of the present position: two well-formed boards standing for the same rules
    position are the same now.  (`abs` records `ep`, the four rights and both counters as they are, without
    normalisation; well-formedness is needed only to get from the mailbox back to the fifteen bitboards.) -/
theorem sameNow_of_abs (b b' : Board) (hw : WF b) (hw' : WF b') (h : abs b' = abs b) : SameNow b b' := by
  refine ⟨?_, ?_, ?_, ?_, ?_, ?_⟩
  · exact pbb_ext b'.bbs b.bbs hw'.bbs hw.bbs (fun s hs => pieceAt_of_abs b b' h s hs)
  · exact (MoveGen.absColor_inj _ _).mp (congrArg Rules.Pos.turn h)
  · exact congrArg Rules.Pos.full h
  · exact congrArg Rules.Pos.ep h
  · exact rights_ext _ _ (congrArg Rules.Pos.wk h) (congrArg Rules.Pos.wq h) (congrArg Rules.Pos.bk h)
      (congrArg Rules.Pos.bq h)
  · exact congrArg Rules.Pos.half h

theorem king_at_of_abs (b : Board) (c : Color) (i : Nat) (hi : i < 64)
    (h : (abs b).at i = some ⟨absColor c, .king⟩) :
    b.pieceAt (Square.ofIdx i) = some ⟨.king, c⟩ := by
  rw [MoveGen.abs_at b i hi] at h
  cases hp : b.pieceAt (Square.ofIdx i) with
  | none => rw [hp] at h; cases h
  | some k =>
    rw [hp] at h
    have h' : absPiece k = absPiece ⟨.king, c⟩ := Option.some.inj h
    rw [(MoveGen.absPiece_inj _ _).mp h']

/-- one king a side in `abs b` (the three parts of `C07.SpecKings`) gives `KingsPresent b` -/
theorem kingsPresent_of_spec (b : Board)
    (h : (∃ s, s < 64 ∧ (abs b).at s = some ⟨.white, .king⟩) ∧ (∃ s, s < 64 ∧ (abs b).at s = some ⟨.black, .king⟩) ∧
      (∀ s t c, s < 64 → t < 64 → (abs b).at s = some ⟨c, .king⟩ → (abs b).at t = some ⟨c, .king⟩ → s = t)) :
    KingsPresent b := by
  obtain ⟨⟨i, hi, hw⟩, ⟨j, hj, hb⟩, hu⟩ := h
  refine ⟨⟨Square.ofIdx i, (ofIdx_IR i hi).1, (ofIdx_IR i hi).2, king_at_of_abs b .white i hi hw⟩,
    ⟨Square.ofIdx j, (ofIdx_IR j hj).1, (ofIdx_IR j hj).2, king_at_of_abs b .black j hj hb⟩, ?_⟩
  intro s t hsr hsf htr htf c h1 h2
  have hs : IR s := ⟨hsr, hsf⟩
  have ht : IR t := ⟨htr, htf⟩
  exact (idx_eq_iff s t hs ht).mp (hu s.idx t.idx (absColor c) (idx_lt s hs) (idx_lt t ht)
    (MoveGen.abs_at_some b hs h1) (MoveGen.abs_at_some b ht h2))

/-- The two bounds are **not** consequences of `WF` (nor of `Legal`): the model's counters are `Nat`, `WF`
    says nothing about them, and FEN reading (`parseU16?`) rejects larger numbers — so without them the
    re-load fails (`fromFen? = none`) and the statement would be false.  The other two clauses (64 squares,
    en-passant file < 8) do follow from `WF`. -/
theorem wf_valid (b : Board) (hw : WF b) (hh : b.halfmove < 65536) (hf : b.fullmove < 65536) : ValidPos (abs b) := by
  refine ⟨?_, fun f h => (hw.ep.2 f h).1, hh, hf⟩
  simp [abs]

theorem wf_consistent (b : Board) (hw : WF b) : ConsistentPos (abs b) := by
  obtain ⟨r1, r2, r3, r4⟩ := hw.rights
  obtain ⟨k1, k2⟩ := hw.kings
  have hking : ∀ c (home : Square) sq, sq < 64 → (abs b).at sq = some ⟨absColor c, .king⟩ →
      (∀ s : Square, s.rank < 8 → s.file < 8 → b.pieceAt s = some ⟨.king, c⟩ → s = home) → sq = home.idx :=
    fun c home sq hsq hk hh => by
    have := congrArg Square.idx (hh _ (ofIdx_IR sq hsq).1 (ofIdx_IR sq hsq).2 (king_at_of_abs b c sq hsq hk))
    rwa [ofIdx_idx] at this
  have hat := @MoveGen.abs_at_some b
  refine ⟨fun h => hat (by decide) (r1 h), fun h => hat (by decide) (r2 h),
    fun h => hat (by decide) (r3 h), fun h => hat (by decide) (r4 h),
    fun h sq hsq hk => hking .white _ sq hsq hk (k1 h), fun h sq hsq hk => hking .black _ sq hsq hk (k2 h), ?_⟩
  intro f hf
  obtain ⟨hf8, e1, e2⟩ := hw.ep.2 f hf
  have hi : ∀ x y : Nat, (if (abs b).turn = .white then x else y) = if b.turn = .white then x else y := by
    intro x y; show (if absColor b.turn = _ then x else y) = _; cases b.turn <;> rfl
  have hr : ∀ x y : Nat, x < 8 → y < 8 → IR ⟨if b.turn = .white then x else y, f⟩ :=
    fun x y hx hy => ⟨by show (if _ then x else y) < 8; split <;> assumption, hf8⟩
  rw [hi, hi]
  exact ⟨(hat (hr 4 3 (by omega) (by omega)) e1).trans (congrArg (fun c => some (Rules.Piece.mk c .pawn)) (MoveGen.absColor_opp b.turn)),
    (MoveGen.abs_at_sq b _ (hr 5 2 (by omega) (by omega))).trans (by rw [e2]; rfl)⟩
/-- non-vacuity of the round trip's hypotheses: the start position satisfies both -/
theorem _root_.RCE.Proofs.FenRoundtrip.start_valid : ValidPos (abs Board.start) :=
  wf_valid Board.start BoardKey.start_ok'.2 (by decide) (by decide)

theorem _root_.RCE.Proofs.FenRoundtrip.start_consistent : ConsistentPos (abs Board.start) :=
  wf_consistent Board.start BoardKey.start_ok'.2

theorem sameNow_attackedSquares (b b' : Board) (h : SameNow b b') (c : Color) :
    b'.attackedSquares c = b.attackedSquares c := by
  unfold Board.attackedSquares
  simp only [Board.pieceAt, h.1]

theorem sameNow_isInCheck (b b' : Board) (h : SameNow b b') (c : Color) : b'.isInCheck c = b.isInCheck c := by
  unfold Board.isInCheck
  simp only [sameNow_attackedSquares b b' h, h.1]

/-- the generator reads the piece boards, the side to move, the en-passant file and the castling rights -/
theorem sameNow_allMoves (b b' : Board) (h : SameNow b b') : b'.allMoves = b.allMoves := by
  have hc : ∀ i, b'.castlingAbility i = b.castlingAbility i := fun i => by
    unfold Board.castlingAbility
    simp only [sameNow_attackedSquares b b' h, h.1, h.2.1, h.2.2.2.2.1]
  unfold Board.allMoves kindMoveset pawnMoveset kingMoveset simpleMoveset sameColorBB
  simp only [Board.pieceAt, h.1, h.2.1, h.2.2.2.1, hc]
theorem sameNow_evaluate (b b' : Board) (h : SameNow b b') : b'.evaluate = b.evaluate := by
  unfold Board.evaluate evalLoop
  simp only [h.1, h.2.1]

theorem sameNow_scratchKey (b b' : Board) (h : SameNow b b') : b'.scratchKey = b.scratchKey :=
  BoardKey.scratchKey_congr b' b (fun _ _ => congrArg (PBB.pieceAt · _) h.1) h.2.2.2.2.1 h.2.2.2.1 h.2.1

theorem sameNow_makeMove (b b' : Board) (h : SameNow b b') (m : Ply) : SameNow (b.makeMove m) (b'.makeMove m) := by
  obtain ⟨hb, ht, hf, he, hr, hh⟩ := h
  have hh' : b'.top.clock = b.top.clock := hh
  refine ⟨?_, ?_, ?_, ?_, ?_, ?_⟩
  · rw [makeMove_bbs, makeMove_bbs, newBBS, newBBS, ht, hb]
  · rw [makeMove_turn, makeMove_turn, ht]
  · rw [makeMove_fullmove, makeMove_fullmove, ht, hf]
  · rw [makeMove_ep, makeMove_ep]
  · rw [makeMove_rights, makeMove_rights, hr]
  · rw [makeMove_halfmove, makeMove_halfmove, newClock, newClock, hh']

theorem sameNowK_makeMove (b b' : Board) (h : SameNowK b b') (m : Ply) : SameNowK (b.makeMove m) (b'.makeMove m) := by
  refine ⟨sameNow_makeMove b b' h.1 m, ?_⟩
  obtain ⟨⟨hb, ht, hf, he, hr, hh⟩, hk⟩ := h
  have hr' : b'.top.rights = b.top.rights := hr
  rw [makeMove_zkey, makeMove_zkey, hk, he, ht, hr']

theorem sameNow_legalMovesPure (b b' : Board) (h : SameNow b b') : b'.legalMovesPure = b.legalMovesPure := by
  have hchk : ∀ (m : Ply) (c : Color), (b'.makeMove m).isInCheck c = (b.makeMove m).isInCheck c :=
    fun m c => sameNow_isInCheck _ _ (sameNow_makeMove b b' h m) c
  unfold Board.legalMovesPure
  simp only [sameNow_allMoves b b' h, hchk]

/-- the engine's own `get_legal_moves` (make / test / unmake on the live board) returns the same list -/
theorem sameNow_legalMoves (b b' : Board) (hw : WF b) (hw' : WF b') (h : SameNow b b') :
    (b'.legalMoves).1 = (b.legalMoves).1 := by
  rw [(BoardUndo.legalMoves_pure' b hw).2, (BoardUndo.legalMoves_pure' b' hw').2, sameNow_legalMovesPure b b' h]

theorem sameNow_game (b b' : Board) (h : SameNow b b') (ms : List Ply) :
    SameNow (ms.foldl Board.makeMove b) (ms.foldl Board.makeMove b') := by
  induction ms generalizing b b' with
  | nil => exact h
  | cons m ms ih => exact ih _ _ (sameNow_makeMove b b' h m)

theorem sameNowK_game (b b' : Board) (h : SameNowK b b') (ms : List Ply) :
    SameNowK (ms.foldl Board.makeMove b) (ms.foldl Board.makeMove b') := by
  induction ms generalizing b b' with
  | nil => exact h
  | cons m ms ih => exact ih _ _ (sameNowK_makeMove b b' h m)

theorem sameNow_legalSeq (b b' : Board) (h : SameNow b b') (ms : List Ply) (hs : Props.C03.LegalSeq b ms) :
    Props.C03.LegalSeq b' ms := by
  induction ms generalizing b b' with
  | nil => trivial
  | cons m ms ih =>
    refine ⟨?_, ih _ _ (sameNow_makeMove b b' h m) hs.2⟩
    rw [sameNow_legalMovesPure b b' h]; exact hs.1

/-- re-loading the FEN text of a well-formed board gives the same board except for the undo stack (below
    the rights and clock of its top record), the repetition record and — unless `b` carries its
    from-scratch key, see `loaded_equals_played_key` — the key -/
theorem loaded_equals_played (b : Board) (hw : WF b) (hv : ValidPos (abs b)) (hc : ConsistentPos (abs b)) :
    ∃ b', Board.fromFen? (Rules.render (abs b)) = some b' ∧ SameNow b b' ∧ WF b' ∧ b'.zkey = b'.scratchKey := by
  have hw' := loaded_wf (abs b) hc hv (abs b).half (abs b).full
  exact ⟨_, load6 (abs b) hv, sameNow_of_abs b _ hw hw' (abs_loaded (abs b) hv.size _ _), hw',
    BoardKey.fromFen_keyOk _ _ (load6 (abs b) hv)⟩

/-- … and the key as well, when the played board carries its from-scratch key (C04: it always does) -/
theorem loaded_equals_played_key (b : Board) (hw : WF b) (hv : ValidPos (abs b)) (hc : ConsistentPos (abs b))
    (hk : b.zkey = b.scratchKey) :
    ∃ b', Board.fromFen? (Rules.render (abs b)) = some b' ∧ SameNowK b b' ∧ WF b' ∧ b'.zkey = b'.scratchKey := by
  obtain ⟨b', hb', hs, hw', hk'⟩ := loaded_equals_played b hw hv hc
  refine ⟨b', hb', ⟨hs, ?_⟩, hw', hk'⟩
  rw [hk', hk]; exact sameNow_scratchKey b b' hs

theorem loaded_equals_played_wf (b : Board) (hw : WF b) (hk : b.zkey = b.scratchKey)
    (hh : b.halfmove < 65536) (hf : b.fullmove < 65536) :
    ∃ b', Board.fromFen? (Rules.render (abs b)) = some b' ∧ SameNowK b b' ∧ WF b' ∧ b'.zkey = b'.scratchKey :=
  loaded_equals_played_key b hw (wf_valid b hw hh hf) (wf_consistent b hw) hk

theorem game_ok (b : Board) (ms : List Ply) (hw : WF b) (hk : b.zkey = b.scratchKey) (hs : Props.C03.LegalSeq b ms) :
    WF (ms.foldl Board.makeMove b) ∧ (ms.foldl Board.makeMove b).zkey = (ms.foldl Board.makeMove b).scratchKey := by
  induction ms generalizing b with
  | nil => exact ⟨hw, hk⟩
  | cons m ms ih =>
    have h1 := Props.C04.key_incremental b m hw hk (Props.C03.legal_is_generated b m hs.1)
    exact ih (b.makeMove m) h1.2 h1.1 hs.2

theorem makeMove_halfmove_le (b : Board) (m : Ply) : (b.makeMove m).halfmove ≤ b.halfmove + 1 := by
  rw [makeMove_halfmove]
  show newClock b m ≤ b.top.clock + 1
  unfold newClock
  split <;> omega

theorem makeMove_fullmove_le (b : Board) (m : Ply) : (b.makeMove m).fullmove ≤ b.fullmove + 1 := by
  rw [makeMove_fullmove]
  split <;> omega

theorem game_counters (b : Board) (ms : List Ply) :
    (ms.foldl Board.makeMove b).halfmove ≤ b.halfmove + ms.length ∧
    (ms.foldl Board.makeMove b).fullmove ≤ b.fullmove + ms.length := by
  induction ms generalizing b with
  | nil => exact ⟨Nat.le_refl _, Nat.le_refl _⟩
  | cons m ms ih =>
    have h := ih (b.makeMove m)
    have h1 := makeMove_halfmove_le b m
    have h2 := makeMove_fullmove_le b m
    simp only [List.foldl_cons, List.length_cons]
    omega

theorem start_halfmove : Board.start.halfmove = 0 := rfl
theorem start_fullmove : Board.start.fullmove = 1 := rfl

/-- in terms of the two counters; the hypothesis is necessary: otherwise the FEN reader rejects the text -/
theorem reload_after_game' (ms : List Ply) (hs : Props.C03.LegalSeq Board.start ms)
    (hh : (ms.foldl Board.makeMove Board.start).halfmove < 65536)
    (hf : (ms.foldl Board.makeMove Board.start).fullmove < 65536) :
    let b := ms.foldl Board.makeMove Board.start
    ∃ b', Board.fromFen? (Rules.render (abs b)) = some b' ∧ SameNow b b' ∧ b'.zkey = b.zkey ∧
      b'.allMoves = b.allMoves ∧ b'.legalMovesPure = b.legalMovesPure := by
  intro b
  obtain ⟨hw, hk⟩ := game_ok Board.start ms Props.C04.start_ok.2 Props.C04.start_ok.1 hs
  obtain ⟨b', hb', ⟨hsn, hkk⟩, _, _⟩ := loaded_equals_played_wf b hw hk hh hf
  exact ⟨b', hb', hsn, hkk, sameNow_allMoves b b' hsn, sameNow_legalMovesPure b b' hsn⟩

/-- fewer than 65535 plies keep both counters inside `u16` (clock ≤ number of plies, move number ≤ 1 + number of plies) -/
theorem reload_after_game (ms : List Ply) (hs : Props.C03.LegalSeq Board.start ms) (hlen : ms.length < 65535) :
    let b := ms.foldl Board.makeMove Board.start
    ∃ b', Board.fromFen? (Rules.render (abs b)) = some b' ∧ SameNow b b' ∧ b'.zkey = b.zkey ∧
      b'.allMoves = b.allMoves ∧ b'.legalMovesPure = b.legalMovesPure := by
  have hc := game_counters Board.start ms
  rw [start_halfmove, start_fullmove] at hc
  exact reload_after_game' ms hs (by omega) (by omega)

/-- … and from then on: after any further moves `ns` the loaded and the played board are still the same
    now with the same key; a continuation legal for one is legal for the other. -/
theorem reload_then_play (ms ns : List Ply) (hs : Props.C03.LegalSeq Board.start ms) (hlen : ms.length < 65535) :
    let b := ms.foldl Board.makeMove Board.start
    ∃ b', Board.fromFen? (Rules.render (abs b)) = some b' ∧
      SameNowK (ns.foldl Board.makeMove b) (ns.foldl Board.makeMove b') ∧
      (Props.C03.LegalSeq b ns → Props.C03.LegalSeq b' ns) := by
  intro b
  obtain ⟨b', hb', hsn, hkk, _, _⟩ := reload_after_game ms hs hlen
  exact ⟨b', hb', sameNowK_game b b' ⟨hsn, hkk⟩ ns, sameNow_legalSeq b b' hsn ns⟩

end RCE.Proofs.FenPlayed

#print axioms RCE.Proofs.FenPlayed.sameNow_of_abs
#print axioms RCE.Proofs.FenPlayed.wf_valid
#print axioms RCE.Proofs.FenPlayed.wf_consistent
#print axioms RCE.Proofs.FenPlayed.sameNow_allMoves
#print axioms RCE.Proofs.FenPlayed.sameNow_isInCheck
#print axioms RCE.Proofs.FenPlayed.sameNow_evaluate
#print axioms RCE.Proofs.FenPlayed.sameNow_scratchKey
#print axioms RCE.Proofs.FenPlayed.sameNow_makeMove
#print axioms RCE.Proofs.FenPlayed.sameNowK_makeMove
#print axioms RCE.Proofs.FenPlayed.sameNow_legalMovesPure
#print axioms RCE.Proofs.FenPlayed.sameNow_legalMoves
#print axioms RCE.Proofs.FenPlayed.sameNow_game
#print axioms RCE.Proofs.FenPlayed.sameNowK_game
#print axioms RCE.Proofs.FenPlayed.sameNow_legalSeq
#print axioms RCE.Proofs.FenPlayed.loaded_equals_played
#print axioms RCE.Proofs.FenPlayed.loaded_equals_played_key
#print axioms RCE.Proofs.FenPlayed.loaded_equals_played_wf
#print axioms RCE.Proofs.FenPlayed.game_ok
#print axioms RCE.Proofs.FenPlayed.game_counters
#print axioms RCE.Proofs.FenPlayed.reload_after_game'
#print axioms RCE.Proofs.FenPlayed.reload_after_game
#print axioms RCE.Proofs.FenPlayed.reload_then_play
