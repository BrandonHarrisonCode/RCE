import RCE.Proofs.FenPlacement
import RCE.Proofs.BoardKey
/-! C07: `Board.fromFen?` reads back what `Rules.render` writes: the reader decomposed into its field readers
    (`fromFen_some`), the loaded board (`loaded`), its abstraction and its well-formedness. -/
namespace RCE.Proofs.FenRoundtrip
open RCE RCE.Proofs.Abs RCE.Proofs.BoardWF RCE.Proofs.BoardPBB RCE.Proofs.FenFields RCE.Proofs.FenPlacement

/-- a position that FEN text can describe: 64 squares, an en-passant *file*, `u16` counters.
    Nothing about legality (kings, checks, pawns on the back ranks …) is required. -/
structure ValidPos (p : Rules.Pos) : Prop where
  size : p.board.size = 64
  ep : ∀ f, p.ep = some f → f < 8
  half : p.half < 65536
  full : p.full < 65536

/-- what makes the loaded board satisfy the representation invariant `WF`: a claimed right has its rook on
    the corner and no king of that colour off e1 / e8 (`RightsConsistent`, `KingsHome`); the pawn that made
    the double step stands on the 5th / 4th rank of the en-passant file and the square behind it is empty
    (`EpConsistent`). -/
structure ConsistentPos (p : Rules.Pos) : Prop where
  wk : p.wk = true → p.at 7 = some ⟨.white, .rook⟩
  wq : p.wq = true → p.at 0 = some ⟨.white, .rook⟩
  bk : p.bk = true → p.at 63 = some ⟨.black, .rook⟩
  bq : p.bq = true → p.at 56 = some ⟨.black, .rook⟩
  wking : (p.wk = true ∨ p.wq = true) → ∀ sq, sq < 64 → p.at sq = some ⟨.white, .king⟩ → sq = 4
  bking : (p.bk = true ∨ p.bq = true) → ∀ sq, sq < 64 → p.at sq = some ⟨.black, .king⟩ → sq = 60
  ep : ∀ f, p.ep = some f →
    p.at ((if p.turn = .white then 4 else 3) * 8 + f) = some ⟨p.turn.opp, .pawn⟩ ∧
    p.at ((if p.turn = .white then 5 else 2) * 8 + f) = none

/-- the 4-field form of the FEN text (no counters) -/
def render4 (p : Rules.Pos) : List Char :=
  Rules.renderPlacement p ++ [' '] ++ [if p.turn == .white then 'w' else 'b'] ++ [' '] ++ Rules.renderCastling p
    ++ [' '] ++ Rules.renderEp p

/-- the synthetic undo record of `history(builder)` -/
def rec0 (turn : Color) (rights : Rights) (ep : Option Nat) (half : Nat) : Ply :=
  let r : Ply := match ep with
    | some file =>
      (match turn with
       | .white => { mkPly ⟨1, file⟩ ⟨3, file⟩ ⟨.pawn, .white⟩ with isDoublePush := true }
       | .black => { mkPly ⟨6, file⟩ ⟨4, file⟩ ⟨.pawn, .black⟩ with isDoublePush := true })
    | none => mkPly ⟨0, 0⟩ ⟨0, 0⟩ ⟨.pawn, turn⟩
  { r with rights := rights, clock := half }

/-- the board `from_fen` builds from the values of the six fields -/
def mkBoard (bbs : PBB) (turn : Color) (rights : Rights) (ep : Option Nat) (half full : Nat) : Board :=
  let b : Board := { turn := turn, fullmove := full, ep := ep, history := [rec0 turn rights ep half], posHist := [],
                     bbs := bbs.withUnions, zkey := 0 }
  { b with zkey := b.scratchKey }

theorem fromFen_some (s f0 f1 f2 f3 : List Char) (rest : List (List Char))
    (hs : splitWs s = f0 :: f1 :: f2 :: f3 :: rest)
    (bbs : PBB) (h0 : placementAux f0 0 PBB.empty = some bbs)
    (turn : Color) (h1 : readSide f1 = some turn)
    (rights : Rights) (h2 : readRights f2 = some rights)
    (ep : Option Nat) (h3 : readEp f3 = some ep)
    (half : Nat) (h4 : parseU16? ((f0 :: f1 :: f2 :: f3 :: rest).getD 4 ['0']) = some half)
    (full : Nat) (h5 : parseU16? ((f0 :: f1 :: f2 :: f3 :: rest).getD 5 ['1']) = some full) :
    Board.fromFen? s = some (mkBoard bbs turn rights ep half full) := by
  unfold Board.fromFen?
  simp only [hs, List.getElem?_cons_zero, List.getElem?_cons_succ, bind, Option.bind_some, h0, h4, h5]
  generalize hr : List.foldl _ (some (Rights.mk false false false false)) f2 = r
  have hr' : r = some rights := hr.symm.trans h2
  subst hr'
  simp only [Option.bind_some]
  unfold readSide at h1
  unfold readEp at h3
  generalize f1.headD 'w' = c1 at h1 ⊢
  generalize f3.headD '-' = c3 at h3 ⊢
  split at h1
  iterate 2
    injection h1 with h1; subst h1
    split at h3
    · injection h3 with h3; subst h3
      rfl
    · split at h3
      · injection h3 with h3; subst h3
        rename_i hc
        simp only [hc, and_self, if_true]; rfl
      · cases h3
  cases h1

def rightsOf (p : Rules.Pos) : Rights := ⟨p.wk, p.wq, p.bk, p.bq⟩

/-- the board loaded from the FEN of `p` with the given counters -/
def loaded (p : Rules.Pos) (half full : Nat) : Board :=
  mkBoard (placed p) (concColor p.turn) (rightsOf p) p.ep half full

theorem sideChar_eq (p : Rules.Pos) : (if p.turn == .white then 'w' else 'b') = sideChar p := rfl

theorem render_eq (p : Rules.Pos) :
    Rules.render p = Rules.renderPlacement p ++ ' ' :: ([sideChar p] ++ ' ' :: (Rules.renderCastling p ++ ' ' ::
      (Rules.renderEp p ++ ' ' :: (Rules.renderNat p.half ++ ' ' :: Rules.renderNat p.full)))) := by
  unfold Rules.render
  simp [sideChar]

theorem render4_eq (p : Rules.Pos) :
    render4 p = Rules.renderPlacement p ++ ' ' :: ([sideChar p] ++ ' ' :: (Rules.renderCastling p ++ ' ' ::
      Rules.renderEp p)) := by
  unfold render4
  simp [sideChar]

theorem split_render (p : Rules.Pos) (hv : ValidPos p) :
    splitWs (Rules.render p) = Rules.renderPlacement p :: [sideChar p] :: Rules.renderCastling p :: Rules.renderEp p ::
      [Rules.renderNat p.half, Rules.renderNat p.full] := by
  rw [render_eq,
    splitWs_cons _ _ (placement_noWs p) (placement_ne p),
    splitWs_cons _ _ (side_noWs p) (by simp),
    splitWs_cons _ _ (castling_noWs p) (castling_ne p),
    splitWs_cons _ _ (ep_noWs p hv.ep) (ep_ne p),
    splitWs_cons _ _ (renderNat_noWs _) (renderNat_ne _),
    splitWs_single _ (renderNat_noWs _) (renderNat_ne _)]

theorem split_render4 (p : Rules.Pos) (hv : ValidPos p) :
    splitWs (render4 p) = Rules.renderPlacement p :: [sideChar p] :: Rules.renderCastling p :: Rules.renderEp p :: [] := by
  rw [render4_eq,
    splitWs_cons _ _ (placement_noWs p) (placement_ne p),
    splitWs_cons _ _ (side_noWs p) (by simp),
    splitWs_cons _ _ (castling_noWs p) (castling_ne p),
    splitWs_single _ (ep_noWs p hv.ep) (ep_ne p)]

theorem load6 (p : Rules.Pos) (hv : ValidPos p) :
    Board.fromFen? (Rules.render p) = some (loaded p p.half p.full) :=
  fromFen_some _ _ _ _ _ _ (split_render p hv) _ (placement_read p) _ (side_read p) _ (castling_read p)
    _ (ep_read p hv.ep) _ (parseU16_render _ hv.half) _ (parseU16_render _ hv.full)

theorem load4 (p : Rules.Pos) (hv : ValidPos p) :
    Board.fromFen? (render4 p) = some (loaded p 0 1) :=
  fromFen_some _ _ _ _ _ _ (split_render4 p hv) _ (placement_read p) _ (side_read p) _ (castling_read p)
    _ (ep_read p hv.ep) _ (by decide : parseU16? ['0'] = some 0) _ (by decide : parseU16? ['1'] = some 1)

theorem at_eq (p : Rules.Pos) (i : Nat) (h : i < p.board.size) : p.at i = p.board[i] := by
  unfold Rules.Pos.at
  simp [Array.getD, h]

theorem loaded_pieceAt (p : Rules.Pos) (half full i : Nat) (hi : i < 64) :
    (loaded p half full).pieceAt (Square.ofIdx i) = (p.at i).map concPiece :=
  placed_pieceAt' p i hi

theorem abs_board (p : Rules.Pos) (hs : p.board.size = 64) (half full : Nat) :
    ((Array.range 64).map fun i => ((loaded p half full).pieceAt (Square.ofIdx i)).map absPiece) = p.board := by
  apply Array.ext
  · simp [hs]
  · intro i h1 h2
    have hi : i < 64 := by simpa using h1
    rw [Array.getElem_map, Array.getElem_range]
    show ((placed p).withUnions.pieceAt (Square.ofIdx i)).map absPiece = _
    rw [placed_pieceAt p i hi, at_eq p i h2]

theorem abs_loaded (p : Rules.Pos) (hs : p.board.size = 64) (half full : Nat) :
    abs (loaded p half full) = { p with half := half, full := full } := by
  have h1 : abs (loaded p half full) =
      ⟨(Array.range 64).map fun i => ((loaded p half full).pieceAt (Square.ofIdx i)).map absPiece,
       absColor (concColor p.turn), p.wk, p.wq, p.bk, p.bq, p.ep, half, full⟩ := rfl
  rw [h1, abs_board p hs, abs_concColor]

theorem sq_ofIdx (r f : Nat) (hf : f < 8) : (⟨r, f⟩ : Square) = Square.ofIdx (r * 8 + f) := by
  unfold Square.ofIdx
  congr 1 <;> omega

theorem loaded_wf (p : Rules.Pos) (hc : ConsistentPos p) (hv : ValidPos p) (half full : Nat) :
    WF (loaded p half full) := by
  have hpa : ∀ r f k, f < 8 → r * 8 + f < 64 → p.at (r * 8 + f) = some (absPiece k) →
      (loaded p half full).pieceAt ⟨r, f⟩ = some k := fun r f k hf hi h => by
    rw [sq_ofIdx r f hf, loaded_pieceAt p half full _ hi, conc_eq_iff]; exact h
  refine ⟨placed_wf p, by simp [loaded, mkBoard], ?_, ?_, ?_⟩
  · exact ⟨fun h => hpa 0 7 _ (by omega) (by omega) (hc.wk h), fun h => hpa 0 0 _ (by omega) (by omega) (hc.wq h),
      fun h => hpa 7 7 _ (by omega) (by omega) (hc.bk h), fun h => hpa 7 0 _ (by omega) (by omega) (hc.bq h)⟩
  · -- kings: a king off its home square would be one in `p`
    have hk : ∀ (s : Square) c, IR s → (loaded p half full).pieceAt s = some ⟨.king, c⟩ →
        p.at s.idx = some ⟨absColor c, .king⟩ := fun s c hs h => by
      rwa [← ofIdx_of_idx s hs, loaded_pieceAt p half full _ (idx_lt s hs), conc_eq_iff] at h
    refine ⟨fun h s h1 h2 hs => ?_, fun h s h1 h2 hs => ?_⟩
    · rw [← ofIdx_of_idx s ⟨h1, h2⟩, hc.wking h _ (idx_lt s ⟨h1, h2⟩) (hk s _ ⟨h1, h2⟩ hs)]; rfl
    · rw [← ofIdx_of_idx s ⟨h1, h2⟩, hc.bking h _ (idx_lt s ⟨h1, h2⟩) (hk s _ ⟨h1, h2⟩ hs)]; rfl
  · refine ⟨?_, fun f hf => ?_⟩
    · show p.ep = _
      unfold Board.top loaded mkBoard rec0
      cases p.ep with
      | none => rfl
      | some f => cases p.turn <;> rfl
    · have hf8 := hv.ep f hf
      obtain ⟨e1, e2⟩ := hc.ep f hf
      refine ⟨hf8, ?_⟩
      have hpn : ∀ r, r * 8 + f < 64 → p.at (r * 8 + f) = none → (loaded p half full).pieceAt ⟨r, f⟩ = none :=
        fun r hi h => by rw [sq_ofIdx r f hf8, loaded_pieceAt p half full _ hi, h]; rfl
      show (loaded p half full).pieceAt ⟨if concColor p.turn = .white then 4 else 3, f⟩ = some ⟨.pawn, (concColor p.turn).opp⟩ ∧
        (loaded p half full).pieceAt ⟨if concColor p.turn = .white then 5 else 2, f⟩ = none
      cases ht : p.turn <;> rw [ht] at e1 e2
      · exact ⟨hpa 4 f ⟨.pawn, .black⟩ hf8 (by omega) e1, hpn 5 (by omega) e2⟩
      · exact ⟨hpa 3 f ⟨.pawn, .white⟩ hf8 (by omega) e1, hpn 2 (by omega) e2⟩

/-- the twelve boards of the start position before the unions are computed -/
def startRaw : PBB :=
  { PBB.empty with
    wp := 0x000000000000FF00, wk := 0x10, wq := 0x08, wr := 0x81, wb := 0x24, wn := 0x42,
    bp := 0x00FF000000000000, bk := 0x1000000000000000, bq := 0x0800000000000000,
    br := 0x8100000000000000, bb := 0x2400000000000000, bn := 0x4200000000000000 }

end RCE.Proofs.FenRoundtrip
