import RCE.Model.Attacks
/-! The magic-table fill: "last writer wins, and there is no destructive collision". -/
namespace RCE.Proofs.Fill
open RCE

def fillL (h : Nat → Nat) (v : Nat → BB) (l : List Nat) (t : Array BB) : Array BB :=
  l.foldl (fun t i => t.setIfInBounds (h i) (v i)) t

theorem fillL_size (h : Nat → Nat) (v : Nat → BB) (l : List Nat) (t : Array BB) :
    (fillL h v l t).size = t.size := by
  induction l generalizing t with
  | nil => rfl
  | cons a l ih => simp only [fillL, List.foldl_cons] at *; rw [ih]; simp

theorem fillL_keep (h : Nat → Nat) (v : Nat → BB) (k : Nat) (w : BB) : ∀ (l : List Nat) (t : Array BB),
    t[k]? = some w → (∀ j ∈ l, h j = k → v j = w) → (fillL h v l t)[k]? = some w := by
  intro l
  induction l with
  | nil => intro t ht _; exact ht
  | cons a l ih =>
    intro t ht hw
    refine ih _ ?_ fun j hj => hw j (List.mem_cons_of_mem _ hj)
    rw [Array.getElem?_setIfInBounds]
    split
    · rename_i e
      have hk : k < t.size := (Array.getElem?_eq_some_iff.mp ht).1
      rw [if_pos (e ▸ hk), hw a List.mem_cons_self e]
    · exact ht

theorem fillL_get (h : Nat → Nat) (v : Nat → BB) (l : List Nat) (t : Array BB)
    (hb : ∀ i ∈ l, h i < t.size)
    (hc : ∀ i ∈ l, ∀ j ∈ l, h i = h j → v i = v j) :
    ∀ i ∈ l, (fillL h v l t)[h i]? = some (v i) := by
  induction l generalizing t with
  | nil => intro i hi; cases hi
  | cons a l ih =>
    intro i hi
    rcases List.mem_cons.mp hi with rfl | hil
    · refine fillL_keep h v _ _ l _ ?_ fun j hj e => hc j (List.mem_cons_of_mem _ hj) i hi e
      rw [Array.getElem?_setIfInBounds, if_pos rfl, if_pos (hb i hi)]
    · exact ih _ (fun j hj => by rw [Array.size_setIfInBounds]; exact hb j (List.mem_cons_of_mem _ hj))
        (fun i hi j hj => hc i (List.mem_cons_of_mem _ hi) j (List.mem_cons_of_mem _ hj)) i hil

theorem fillTable_get (size bits : Nat) (magic mask : BB) (slow : BB → BB)
    (hb : ∀ idx, idx < 2 ^ bits → magicIndex (blockersFromIndex idx mask) magic bits < size)
    (hc : ∀ i, i < 2 ^ bits → ∀ j, j < 2 ^ bits →
      magicIndex (blockersFromIndex i mask) magic bits = magicIndex (blockersFromIndex j mask) magic bits →
      slow (blockersFromIndex i mask) = slow (blockersFromIndex j mask))
    (idx : Nat) (hidx : idx < 2 ^ bits) :
    (fillTable size bits magic mask slow)[magicIndex (blockersFromIndex idx mask) magic bits]?
      = some (slow (blockersFromIndex idx mask)) :=
  fillL_get (fun i => magicIndex (blockersFromIndex i mask) magic bits)
    (fun i => slow (blockersFromIndex i mask)) (List.range (2 ^ bits)) (Array.replicate size 0)
    (by intro i hi; simp; exact hb i (List.mem_range.mp hi))
    (fun i hi j hj => hc i (List.mem_range.mp hi) j (List.mem_range.mp hj))
    idx (List.mem_range.mpr hidx)

end RCE.Proofs.Fill
