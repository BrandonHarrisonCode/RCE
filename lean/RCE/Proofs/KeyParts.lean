import RCE.Proofs.KeyPartsDef
/-! The from-scratch key as an XOR of independent parts, and what a single-component change does to it (C05). -/
namespace RCE.Proofs.KeyParts
open RCE

theorem foldl_sq (pa : Nat → Option Kind) (l : List Nat) (k : UInt64) :
    l.foldl (fun k i => match pa i with | some p => k ^^^ zPiece p (Square.ofIdx i) | none => k) k
      = k ^^^ xorSum (sqWord pa) l := by
  induction l generalizing k with
  | nil => simp [xorSum]
  | cons i l ih =>
    simp only [List.foldl_cons, xorSum]
    rw [ih]
    unfold sqWord
    cases pa i <;> simp [UInt64.xor_assoc]

theorem ite_xor (c : Bool) (k z : UInt64) : (if c = true then k ^^^ z else k) = k ^^^ (if c = true then z else 0) := by
  cases c <;> simp

theorem chain_eq (K : UInt64) (r : Rights) (ep : Option Nat) (t : Color) :
    (let k := K
     let k := if r.wk then k ^^^ zCastle 0 else k
     let k := if r.wq then k ^^^ zCastle 1 else k
     let k := if r.bk then k ^^^ zCastle 2 else k
     let k := if r.bq then k ^^^ zCastle 3 else k
     let k := match ep with | some f => k ^^^ zEp f | none => k
     if t == .white then k ^^^ zTurn else k) = K ^^^ rightsWord r ^^^ epWord ep ^^^ turnWord t := by
  simp only [ite_xor]
  unfold rightsWord epWord turnWord
  cases ep <;> simp [UInt64.xor_assoc]

theorem scratchKey_eq (b : Board) :
    b.scratchKey = keyOfParts (fun i => b.pieceAt (Square.ofIdx i)) b.rights b.ep b.turn := by
  have hf := foldl_sq (fun i => b.pieceAt (Square.ofIdx i)) (List.range 64) 0
  simp only [UInt64.zero_xor] at hf
  unfold keyOfParts
  rw [← hf]
  exact chain_eq _ b.rights b.ep b.turn

/-- two square assignments that agree everywhere except at `sq`: the sums differ by the two contributions -/
theorem xorSum_single (f g : Nat → UInt64) (sq : Nat) (l : List Nat) (hl : l.Nodup)
    (hfg : ∀ i ∈ l, i ≠ sq → f i = g i) :
    xorSum f l ^^^ xorSum g l = if sq ∈ l then f sq ^^^ g sq else 0 := by
  induction l with
  | nil => simp [xorSum]
  | cons i l ih =>
    have hn := List.nodup_cons.mp hl
    have ih' := ih hn.2 fun j hj => hfg j (List.mem_cons_of_mem _ hj)
    simp only [xorSum]
    by_cases h : i = sq
    · subst h
      have : i ∉ l := hn.1
      simp only [this, if_false] at ih'
      simp only [List.mem_cons, true_or, if_true]
      calc f i ^^^ xorSum f l ^^^ (g i ^^^ xorSum g l)
          = (f i ^^^ g i) ^^^ (xorSum f l ^^^ xorSum g l) := by ac_rfl
        _ = f i ^^^ g i := by rw [ih']; simp
    · rw [hfg i List.mem_cons_self h]
      have e1 : g i ^^^ xorSum f l ^^^ (g i ^^^ xorSum g l)
          = (g i ^^^ g i) ^^^ (xorSum f l ^^^ xorSum g l) := by ac_rfl
      rw [e1, ih']
      by_cases hs : sq ∈ l
      · simp [hs]
      · simp [hs, Ne.symm h]

theorem xorSum_congr (f g : Nat → UInt64) : ∀ l : List Nat, (∀ i ∈ l, f i = g i) → xorSum f l = xorSum g l
  | [], _ => rfl
  | i :: l, h => by
    rw [xorSum, xorSum, h i List.mem_cons_self, xorSum_congr f g l fun j hj => h j (List.mem_cons_of_mem _ hj)]

theorem xorSum_update (f g : Nat → UInt64) (j : Nat) (l : List Nat) (hl : l.Nodup) (hj : j ∈ l)
    (h : ∀ i ∈ l, i ≠ j → f i = g i) : xorSum g l = xorSum f l ^^^ (f j ^^^ g j) := by
  have := xorSum_single f g j l hl h
  rw [if_pos hj] at this
  rw [← this, ← UInt64.xor_assoc, UInt64.xor_self, UInt64.zero_xor]

end RCE.Proofs.KeyParts
