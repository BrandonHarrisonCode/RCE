import RCE.Model.Board
/-! The from-scratch key as an XOR of independent parts.  The definitions stand apart from their lemmas (`KeyParts.lean`)
    because the compiled driver evaluates `keyOfParts` as well (`Driver/Walk.lean`, the single-component runs of C05) and
    imports no proofs. -/
namespace RCE.Proofs.KeyParts
open RCE

/-- contribution of square `i` holding `pa i` -/
def sqWord (pa : Nat → Option Kind) (i : Nat) : UInt64 :=
  match pa i with | some p => zPiece p (Square.ofIdx i) | none => 0

def xorSum (f : Nat → UInt64) : List Nat → UInt64
  | [] => 0
  | i :: l => f i ^^^ xorSum f l

def rightsWord (r : Rights) : UInt64 :=
  (if r.wk then zCastle 0 else 0) ^^^ (if r.wq then zCastle 1 else 0) ^^^
  (if r.bk then zCastle 2 else 0) ^^^ (if r.bq then zCastle 3 else 0)

def epWord (ep : Option Nat) : UInt64 := match ep with | some f => zEp f | none => 0
def turnWord (t : Color) : UInt64 := if t == .white then zTurn else 0

/-- the key of a position given by its components -/
def keyOfParts (pa : Nat → Option Kind) (r : Rights) (ep : Option Nat) (t : Color) : UInt64 :=
  xorSum (sqWord pa) (List.range 64) ^^^ rightsWord r ^^^ epWord ep ^^^ turnWord t

end RCE.Proofs.KeyParts
