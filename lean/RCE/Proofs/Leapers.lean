import RCE.Proofs.BoardBits
import RCE.Spec.Rules
/-! The leaper tables (knight, king, pawn) hold, for every square, exactly the squares the rules allow.  Each
    square is one comparison of numbers, the attack board against `maskOf` of the rules' squares, evaluated by
    the kernel: its `Nat` arithmetic is built in, bit tests through `UInt64` are not.  Nothing here depends on
    the slider tables. -/
namespace RCE.Proofs.Sliders
open RCE

/-- a bitboard is exactly a list of squares -/
def Exact (att : BB) (spec : List Nat) : Prop := ∀ t, t < 64 → (testBit att t = true ↔ t ∈ spec)

/-- the squares of a list as a number: bit `t` is set iff `t` is in the list -/
def maskOf (l : List Nat) : Nat := l.foldr (fun t a => 2 ^ t ||| a) 0

theorem testBit_maskOf (l : List Nat) (t : Nat) : (maskOf l).testBit t = decide (t ∈ l) := by
  induction l with
  | nil => simp [maskOf]
  | cons x xs ih =>
    show (2 ^ x ||| maskOf xs).testBit t = _
    rw [Nat.testBit_or, ih, Nat.testBit_two_pow]
    simp [eq_comm]

theorem exact_of_sweep {f : Nat → BB} {spec : Nat → List Nat} {n : Nat}
    (h : (List.range n).all (fun sq => (f sq).toNat == maskOf (spec sq)) = true) (sq : Nat) (hsq : sq < n) :
    Exact (f sq) (spec sq) := by
  have e := beq_iff_eq.mp (List.all_eq_true.mp h sq (List.mem_range.mpr hsq))
  intro t ht
  rw [BoardBits.testBit_eq _ t ht]
  show (f sq).toNat.testBit t = true ↔ _
  rw [e, testBit_maskOf, decide_eq_true_iff]

theorem knightAt_exact : ∀ sq, sq < 64 →
    Exact (knightAttacksAt sq) (Rules.knightOff.filterMap fun d => Rules.step sq d.1 d.2) :=
  exact_of_sweep (by decide +kernel)

theorem kingAt_exact : ∀ sq, sq < 64 →
    Exact (kingAttacksAt sq) (Rules.kingOff.filterMap fun d => Rules.step sq d.1 d.2) :=
  exact_of_sweep (by decide +kernel)

theorem pawnAt_exact (white : Bool) : ∀ sq, sq < 64 →
    Exact (pawnAttacksAt white sq)
      ([(1, Rules.pawnDir (if white then .white else .black)), (-1, Rules.pawnDir (if white then .white else .black))].filterMap
        fun d => Rules.step sq d.1 d.2) :=
  exact_of_sweep (by cases white <;> decide +kernel)

theorem knightAttacks_eq (sq : Nat) (h : sq < 64) : knightAttacks sq = knightAttacksAt sq :=
  (BoardBits.getD_map_range knightAttacksAt 64 sq 0).trans (if_pos h)
theorem kingAttacks_eq (sq : Nat) (h : sq < 64) : kingAttacks sq = kingAttacksAt sq :=
  (BoardBits.getD_map_range kingAttacksAt 64 sq 0).trans (if_pos h)
theorem pawnAttacks_eq (white : Bool) (sq : Nat) (h : sq < 64) : pawnAttacks white sq = pawnAttacksAt white sq := by
  unfold pawnAttacks pawnTableW pawnTableB
  rw [BoardBits.getD_map_range, BoardBits.getD_map_range, if_pos h, if_pos h]
  cases white <;> rfl

theorem knight_exact (sq : Nat) (h : sq < 64) :
    Exact (knightAttacks sq) (Rules.knightOff.filterMap fun d => Rules.step sq d.1 d.2) :=
  knightAttacks_eq sq h ▸ knightAt_exact sq h

theorem king_exact (sq : Nat) (h : sq < 64) :
    Exact (kingAttacks sq) (Rules.kingOff.filterMap fun d => Rules.step sq d.1 d.2) :=
  kingAttacks_eq sq h ▸ kingAt_exact sq h

theorem pawn_exact (white : Bool) (sq : Nat) (h : sq < 64) :
    Exact (pawnAttacks white sq)
      ([(1, Rules.pawnDir (if white then .white else .black)), (-1, Rules.pawnDir (if white then .white else .black))].filterMap
        fun d => Rules.step sq d.1 d.2) :=
  pawnAttacks_eq white sq h ▸ pawnAt_exact white sq h

theorem step_some {sq : Nat} {df dr : Int} {t : Nat} (h : Rules.step sq df dr = some t) :
    ((t % 8 : Nat) : Int) = (sq % 8 : Nat) + df ∧ ((t / 8 : Nat) : Int) = (sq / 8 : Nat) + dr ∧ t < 64 := by
  unfold Rules.step at h
  simp only at h
  split at h
  · injection h with h; omega
  · cases h

end RCE.Proofs.Sliders
