import RCE.Proofs.MoveGenPseudo
import RCE.Proofs.Refine
/-! C01 assembled: attacked squares, check status, pseudo-legal and legal generation, mate / stalemate.

    `attacked_exact_pbb`, `inCheck_exact'` (`MoveGenAttacks`) and `pseudo_exact_wf` (`MoveGenPseudo`) are proved
    outright.  The legal-move theorems go through one `make_move`: they are stated over the one-step refinement
    `MakeRefines` as a hypothesis (`legal_exact_of_refines`, `mate_stalemate_exact_of_refines`), which C03 proves
    (`make_refines`, from `Refine.make_refines'`); that `make_move` keeps the invariants (`MakeKeeps`) is `makeKeeps`.
    A primed name here and in `Refine`, `BoardKey`, `BoardUndo` is the theorem of the same name under `RCE.Props`,
    proved where later proofs can use it. -/
namespace RCE.Proofs.MoveGen
open RCE RCE.Proofs.BoardWF RCE.Proofs.Abs RCE.Proofs.BoardPBB RCE.Proofs.BoardBits
open RCE.Proofs.MoveGenList RCE.Proofs.BoardGen RCE.Proofs.BoardMake

/-- C03's one-step refinement, as a statement -/
def MakeRefines : Prop := ∀ (b : Board) (m : Ply), Legal b → m ∈ b.allMoves →
  abs (b.makeMove m) = Rules.apply (abs b) (absMove m)
def MakeKeeps : Prop := ∀ (b : Board) (m : Ply), Legal b → m ∈ b.allMoves →
  WF (b.makeMove m) ∧ KingsPresent (b.makeMove m)

/-- `make_move` over any generated move keeps the invariant (`makeMove_wf`) and both kings (`kingsPresent_make`:
    no generated move captures a king, because the side that just moved is not in check) -/
theorem makeKeeps : MakeKeeps := fun b m hl hm =>
  have g := gen_of_mem b hl.wf m hm
  ⟨makeMove_wf b m hl.wf g, Refine.kingsPresent_make b hl m g⟩

theorem opp_ne (c : Color) : c.opp ≠ c := by cases c <;> decide

/-- the legal moves are the generated moves the rules find legal, in the order in which they were generated -/
theorem legal_eq_filter (hr : MakeRefines) (b : Board) (hl : Legal b) :
    (b.legalMoves).1.map absMove =
      (b.allMoves.map absMove).filter fun mv => !Rules.inCheck (Rules.apply (abs b) mv) (abs b).turn := by
  rw [(BoardUndo.legalMoves_pure' b hl.wf).2]
  refine map_filter_of_agree b.allMoves absMove _ _ fun m hm => ?_
  obtain ⟨hw', hk'⟩ := makeKeeps b m hl hm
  have hc : m.piece.color = b.turn := (gen_of_mem b hl.wf m hm).shape.color
  rw [inCheck_exact' _ hw' hk', hr b m hl hm, hc]
  rfl

theorem legal_exact_of_refines (hr : MakeRefines) (b : Board) (hl : Legal b) :
    ((b.legalMoves).1.map absMove).Perm (Rules.legalMoves (abs b)) ∧ ((b.legalMoves).1.map absMove).Nodup := by
  have hp := pseudo_exact_wf b hl.wf
  rw [legal_eq_filter hr b hl]
  exact ⟨List.Perm.filter _ hp.1, hp.2.filter _⟩

theorem mate_stalemate_exact_of_refines (hr : MakeRefines) (b : Board) (hl : Legal b) :
    (((b.legalMoves).1.isEmpty && b.isInCheck b.turn) = Rules.isCheckmate (abs b)) ∧
    (((b.legalMoves).1.isEmpty && !b.isInCheck b.turn) = Rules.isStalemate (abs b)) := by
  have h := (legal_exact_of_refines hr b hl).1
  have he : (b.legalMoves).1.isEmpty = (Rules.legalMoves (abs b)).isEmpty := by
    rw [← h.isEmpty_eq]; simp
  have hc : b.isInCheck b.turn = Rules.inCheck (abs b) (abs b).turn := inCheck_exact' b hl.wf hl.kings b.turn
  unfold Rules.isCheckmate Rules.isStalemate
  rw [he, hc]
  exact ⟨rfl, rfl⟩

theorem make_refines : MakeRefines := Refine.make_refines'

end RCE.Proofs.MoveGen
