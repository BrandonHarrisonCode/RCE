import RCE.Proofs.Abs
import RCE.Proofs.Sliders
import RCE.Proofs.BoardPBB
import RCE.Proofs.MoveGenList
/-! C01, part 1: the abstraction `abs` read square by square, the attack set of every piece kind is the
    spec's (from C06), `get_attacked_squares` and `is_in_check` are exact. -/
namespace RCE.Proofs.MoveGen
open RCE RCE.Proofs.BoardWF RCE.Proofs.Abs RCE.Proofs.BoardPBB RCE.Proofs.BoardBits RCE.Proofs.Sliders
open RCE.Proofs.MoveGenList

theorem abs_board (b : Board) :
    (abs b).board = (Array.range 64).map fun i => (b.pieceAt (Square.ofIdx i)).map absPiece := rfl

/-- (`rw`, not `unfold`: asked to unfold something applied to `abs b`, the kernel evaluates the 64-entry array) -/
theorem abs_at_all (b : Board) (i : Nat) :
    (abs b).at i = if i < 64 then (b.pieceAt (Square.ofIdx i)).map absPiece else none := by
  rw [Rules.Pos.at, abs_board]
  exact getD_map_range _ 64 i none

theorem abs_at (b : Board) (i : Nat) (h : i < 64) :
    (abs b).at i = (b.pieceAt (Square.ofIdx i)).map absPiece := by
  rw [abs_at_all, if_pos h]

theorem abs_at_ge (b : Board) (i : Nat) (h : 64 ≤ i) : (abs b).at i = none := by
  rw [abs_at_all, if_neg (Nat.not_lt.mpr h)]

theorem ofIdx_inj {i j : Nat} (e : Square.ofIdx i = Square.ofIdx j) : i = j := by
  rw [← ofIdx_idx i, e, ofIdx_idx]

theorem abs_at_sq (b : Board) (s : Square) (h : IR s) : (abs b).at s.idx = (b.pieceAt s).map absPiece := by
  rw [abs_at b _ (idx_lt s h), ofIdx_of_idx s h]

theorem abs_at_some (b : Board) {s : Square} (hs : IR s) {k : Kind} (h : b.pieceAt s = some k) :
    (abs b).at s.idx = some (absPiece k) := by
  rw [abs_at_sq b s hs, h]; rfl

theorem absColor_inj (c c' : Color) : absColor c = absColor c' ↔ c = c' := by
  cases c <;> cases c' <;> simp [absColor]

theorem absColor_beq (c c' : Color) : (absColor c == absColor c') = (c == c') := by
  cases c <;> cases c' <;> rfl

theorem absColor_opp (c : Color) : absColor c.opp = (absColor c).opp := by cases c <;> rfl

theorem absPK_inj {k k' : PK} (h : absPK k = absPK k') : k = k' := by
  cases k <;> cases k' <;> first | rfl | cases h

theorem absPiece_inj (k k' : Kind) : absPiece k = absPiece k' ↔ k = k' := by
  refine ⟨fun h => ?_, fun h => by rw [h]⟩
  rcases k with ⟨pk, c⟩; rcases k' with ⟨pk', c'⟩
  have hk : pk = pk' := absPK_inj (congrArg Rules.Piece.kind h)
  have hc : c = c' := (absColor_inj c c').mp (congrArg Rules.Piece.color h)
  rw [hk, hc]

theorem slideOcc_congr (occ occ' : Nat → Bool) (h : ∀ t, t < 64 → occ t = occ' t) (d : Int × Int) (n : Nat) :
    ∀ sq, Rules.slideOcc occ sq d n = Rules.slideOcc occ' sq d n := by
  induction n with
  | zero => intro sq; rfl
  | succ n ih =>
    intro sq
    unfold Rules.slideOcc
    cases hs : Rules.step sq d.1 d.2 with
    | none => rfl
    | some t =>
      simp only
      rw [h t (step_some hs).2.2, ih t]

theorem occ_abs (b : Board) (hw : PBB.WF b.bbs) (t : Nat) (ht : t < 64) :
    ((abs b).at t).isSome = occOf b.bbs.all t := by
  unfold occOf
  have := all_bit b hw (Square.ofIdx t) (ofIdx_IR t ht)
  rw [ofIdx_idx] at this
  rw [this, abs_at b t ht]
  cases b.pieceAt (Square.ofIdx t) <;> rfl

theorem flatMap_slide_abs (b : Board) (hw : PBB.WF b.bbs) (sq : Nat) (dirs : List (Int × Int)) :
    (dirs.flatMap fun d => Rules.slide (abs b) sq d 7) = specSlider dirs sq b.bbs.all := by
  unfold specSlider Rules.slide
  congr 1
  funext d
  exact slideOcc_congr _ _ (fun t ht => occ_abs b hw t ht) d 7 sq

/-- C06 assembled: the attack set the engine computes for a piece of any kind on any square is the spec's -/
theorem kindAttacks_exact (b : Board) (hw : PBB.WF b.bbs) (k : Kind) (sq : Nat) (h : sq < 64) :
    Exact (kindAttacks k sq b.bbs.all) (Rules.attacksFrom (abs b) sq (absPiece k)) := by
  rcases k with ⟨pk, c⟩
  cases pk
  · have := pawn_exact (c == .white) sq h
    cases c <;> exact this
  · exact king_exact sq h
  · show Exact (queenAttacks sq b.bbs.all) ((Rules.rookDirs ++ Rules.bishopDirs).flatMap fun d => Rules.slide (abs b) sq d 7)
    rw [flatMap_slide_abs b hw]
    exact queen_exact sq _ h
  · show Exact (rookAttacks sq b.bbs.all) (Rules.rookDirs.flatMap fun d => Rules.slide (abs b) sq d 7)
    rw [flatMap_slide_abs b hw]
    obtain ⟨a, ha, hea⟩ := rook_exact sq b.bbs.all h
    unfold rookAttacks; rw [ha]; exact hea
  · show Exact (bishopAttacks sq b.bbs.all) (Rules.bishopDirs.flatMap fun d => Rules.slide (abs b) sq d 7)
    rw [flatMap_slide_abs b hw]
    obtain ⟨a, ha, hea⟩ := bishop_exact sq b.bbs.all h
    unfold bishopAttacks; rw [ha]; exact hea
  · exact knight_exact sq h

/-- a king step never is two files along a rank, so it is not mistaken for castling -/
theorem king_geo (i s : Nat) (hi : i < 64) (hs : s < 64) (h : testBit (kingAttacks i) s = true) :
    s ≠ i + 2 ∧ s + 2 ≠ i := by
  obtain ⟨d, hd, hst⟩ := List.mem_filterMap.mp ((king_exact i hi s hs).mp h)
  obtain ⟨h1, h2, -⟩ := step_some hst
  have hb : ∀ d ∈ Rules.kingOff, -1 ≤ d.1 ∧ d.1 ≤ 1 ∧ -1 ≤ d.2 ∧ d.2 ≤ 1 := by decide
  have := hb d hd
  omega

theorem exact_contains {att : BB} {spec : List Nat} (h : Exact att spec) (t : Nat) (ht : t < 64) :
    testBit att t = spec.contains t := by
  rw [Bool.eq_iff_iff, h t ht]; simp

theorem foldl_or (f : BB → Nat → BB) (q : Nat → Bool) (t : Nat)
    (hf : ∀ acc sq, testBit (f acc sq) t = (testBit acc t || q sq)) (l : List Nat) (acc : BB) :
    testBit (l.foldl f acc) t = (testBit acc t || l.any q) := by
  induction l generalizing acc with
  | nil => simp
  | cons a l ih => rw [List.foldl_cons, ih, hf, List.any_cons, Bool.or_assoc]

/-- the contribution of one square to `get_attacked_squares(c)` -/
def contrib (b : Board) (c : Color) (sq : Nat) : BB :=
  if sameColorBB b c.opp &&& bit sq == 0 then 0
  else match b.pieceAt (Square.ofIdx sq) with
    | some p => kindAttacks p sq b.bbs.all
    | none => 0

theorem attackedSquares_bit (b : Board) (c : Color) (t : Nat) :
    testBit (b.attackedSquares c) t = (List.range 64).any fun sq => testBit (contrib b c sq) t := by
  have hdef : b.attackedSquares c = (List.range 64).foldl (fun acc sq =>
        if sameColorBB b c.opp &&& bit sq == 0 then acc
        else match b.pieceAt (Square.ofIdx sq) with
          | some p => acc ||| kindAttacks p sq b.bbs.all
          | none => acc) 0 := by
    cases c <;> rfl
  rw [hdef, foldl_or _ (fun sq => testBit (contrib b c sq) t) t, testBit_zero, Bool.false_or]
  intro acc sq
  unfold contrib
  split
  · rw [testBit_zero, Bool.or_false]
  · cases b.pieceAt (Square.ofIdx sq) with
    | none => simp only; rw [testBit_zero, Bool.or_false]
    | some p => exact testBit_or _ _ _

theorem contrib_bit (b : Board) (hw : PBB.WF b.bbs) (c : Color) (sq t : Nat) (hsq : sq < 64) :
    testBit (contrib b c sq) t = match b.pieceAt (Square.ofIdx sq) with
      | some p => p.color == c.opp && testBit (kindAttacks p sq b.bbs.all) t
      | none => false := by
  have hcol := sameColor_bit b hw c.opp (Square.ofIdx sq) (ofIdx_IR sq hsq)
  rw [ofIdx_idx] at hcol
  unfold contrib
  rw [and_bit_eq_zero _ _ hsq, hcol]
  cases b.pieceAt (Square.ofIdx sq) with
  | none => simp [testBit_zero]
  | some p => by_cases h : p.color = c.opp <;> simp [h, testBit_zero]

theorem attacked_exact_pbb (b : Board) (hw : PBB.WF b.bbs) (c : Color) (t : Nat) (ht : t < 64) :
    testBit (b.attackedSquares c) t = Rules.attacked (abs b) t (absColor c.opp) := by
  rw [attackedSquares_bit b c t]
  unfold Rules.attacked Rules.squares
  apply any_congr_mem
  intro sq hsq
  rw [List.mem_range] at hsq
  rw [contrib_bit b hw c sq t hsq, abs_at b sq hsq]
  cases hp : b.pieceAt (Square.ofIdx sq) with
  | none => rfl
  | some k =>
    simp only [Option.map_some]
    rw [exact_contains (kindAttacks_exact b hw k sq hsq) t ht]
    show _ = ((absColor k.color == absColor c.opp) && _)
    rw [absColor_beq]

theorem attacked_iff (b : Board) (c : Color) (t : Nat) :
    testBit (b.attackedSquares c) t = true ↔ ∃ sq, sq < 64 ∧ testBit (contrib b c sq) t = true := by
  rw [attackedSquares_bit b c t, List.any_eq_true]
  exact ⟨fun ⟨sq, h1, h2⟩ => ⟨sq, List.mem_range.mp h1, h2⟩, fun ⟨sq, h1, h2⟩ => ⟨sq, List.mem_range.mpr h1, h2⟩⟩

theorem ne_zero_any (x : UInt64) : (x != 0) = (List.range 64).any (testBit x) := by
  rw [Bool.eq_iff_iff, bne_iff_ne, ne_eq, eq_zero_iff, List.any_eq_true]
  constructor
  · intro h
    apply Classical.byContradiction
    intro hn
    exact h fun i hi => Bool.eq_false_iff.mpr fun ht => hn ⟨i, List.mem_range.mpr hi, ht⟩
  · rintro ⟨i, hi, ht⟩ h
    rw [h i (List.mem_range.mp hi)] at ht; cases ht

theorem abs_at_iff (b : Board) {i : Nat} (hi : i < 64) (k : Kind) :
    (abs b).at i = some (absPiece k) ↔ b.pieceAt (Square.ofIdx i) = some k := by
  rw [abs_at b i hi]
  cases b.pieceAt (Square.ofIdx i) <;> simp [absPiece_inj]

theorem isInCheck_eq (b : Board) (c : Color) : b.isInCheck c = (b.bbs.get ⟨.king, c⟩ &&& b.attackedSquares c != 0) := by
  cases c <;> rfl

theorem inCheck_eq (p : Rules.Pos) (c : Rules.Color) :
    Rules.inCheck p c = (Rules.kingSq p c).any fun k => Rules.attacked p k c.opp := by
  unfold Rules.inCheck; cases Rules.kingSq p c <;> rfl

/-- check status is the spec's as soon as the side has at most one king: the engine asks whether some square is on the
    king board and on the attack board, the spec whether the first king square it finds is attacked -/
theorem inCheck_exact_pbb (b : Board) (hw : PBB.WF b.bbs) (c : Color)
    (hu : ∀ s t : Square, IR s → IR t → b.pieceAt s = some ⟨.king, c⟩ → b.pieceAt t = some ⟨.king, c⟩ → s = t) :
    b.isInCheck c = Rules.inCheck (abs b) (absColor c) := by
  rw [isInCheck_eq, ne_zero_any, inCheck_eq]
  unfold Rules.kingSq Rules.squares
  rw [find?_any]
  · apply any_congr_mem
    intro i hi
    rw [List.mem_range] at hi
    have hk : testBit (b.bbs.get ⟨.king, c⟩) i = ((abs b).at i == some ⟨absColor c, .king⟩) := by
      have := pieceAt_iff b.bbs hw _ (ofIdx_IR i hi) ⟨.king, c⟩
      rw [ofIdx_idx] at this
      rw [Bool.eq_iff_iff, beq_iff_eq]
      exact this.symm.trans (abs_at_iff b hi ⟨.king, c⟩).symm
    rw [testBit_and, hk, attacked_exact_pbb b hw c i hi, absColor_opp]
  · intro x hx y hy px py
    rw [List.mem_range] at hx hy
    rw [beq_iff_eq] at px py
    exact ofIdx_inj (hu _ _ (ofIdx_IR x hx) (ofIdx_IR y hy) ((abs_at_iff b hx ⟨.king, c⟩).mp px)
      ((abs_at_iff b hy ⟨.king, c⟩).mp py))

theorem inCheck_exact' (b : Board) (hw : WF b) (hk : KingsPresent b) (c : Color) :
    b.isInCheck c = Rules.inCheck (abs b) (absColor c) :=
  inCheck_exact_pbb b hw.bbs c fun s t hs ht => hk.2.2 s t hs.1 hs.2 ht.1 ht.2 c

theorem bitIndices_perm (att m : BB) (spec : List Nat) (hex : Exact att spec) (hnd : spec.Nodup)
    (hlt : ∀ t ∈ spec, t < 64) :
    (bitIndices (att &&& m)).Perm (spec.filter fun t => testBit m t) := by
  apply (List.perm_ext_iff_of_nodup (nodup_bitIndices _) (hnd.filter _)).mpr
  intro s
  rw [mem_bitIndices, List.mem_filter]
  constructor
  · rintro ⟨hs, hb⟩
    rw [testBit_and, Bool.and_eq_true] at hb
    exact ⟨(hex s hs).mp hb.1, hb.2⟩
  · rintro ⟨hs, hb⟩
    have hs' := hlt s hs
    refine ⟨hs', ?_⟩
    rw [testBit_and, Bool.and_eq_true]
    exact ⟨(hex s hs').mpr hs, hb⟩

/-- `absMove` does not look at the `captured` field that `get_all_moves` fills in -/
theorem absMove_captured (m : Ply) (c : Option Kind) : absMove { m with captured := c } = absMove m := rfl

end RCE.Proofs.MoveGen
