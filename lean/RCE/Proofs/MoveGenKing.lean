import RCE.Proofs.MoveGenSimple
/-! C01, part 3: the king's moves including castling (`castling_ability` against `Rules.castleMoves`). -/
namespace RCE.Proofs.MoveGen
open RCE RCE.Proofs.BoardWF RCE.Proofs.Abs RCE.Proofs.BoardPBB RCE.Proofs.BoardBits RCE.Proofs.Sliders
open RCE.Proofs.MoveGenList RCE.Proofs.BoardGen

/-- a mask test against a constant is a conjunction of bit tests -/
theorem mask_all (x m : BB) (l : List Nat) (hl : ∀ t ∈ l, t < 64)
    (hm : ∀ t, t < 64 → testBit m t = l.contains t) :
    (x &&& m == 0) = l.all fun t => !testBit x t := by
  rw [Bool.eq_iff_iff, beq_iff_eq, eq_zero_iff, List.all_eq_true]
  constructor
  · intro h t ht
    have := h t (hl t ht)
    rw [testBit_and, hm t (hl t ht)] at this
    have hc : l.contains t = true := by simpa using ht
    rw [hc] at this
    simpa using this
  · intro h t ht
    rw [testBit_and, hm t ht]
    cases hc : l.contains t
    · simp
    · have := h t (by simpa using hc)
      simp at this
      simp [this]

theorem masks_fin : ∀ t : Fin 64,
    testBit 0x60 t.val = [5, 6].contains t.val ∧ testBit 0x70 t.val = [4, 5, 6].contains t.val ∧
    testBit 0xE t.val = [3, 2, 1].contains t.val ∧ testBit 0x1C t.val = [4, 3, 2].contains t.val ∧
    testBit 0x6000000000000000 t.val = [61, 62].contains t.val ∧
    testBit 0x7000000000000000 t.val = [60, 61, 62].contains t.val ∧
    testBit 0x0E00000000000000 t.val = [59, 58, 57].contains t.val ∧
    testBit 0x1C00000000000000 t.val = [60, 59, 58].contains t.val := by decide +kernel

theorem empty_part (b : Board) (hw : WF b) (m : BB) (l : List Nat) (hl : ∀ t ∈ l, t < 64)
    (hm : ∀ t, t < 64 → testBit m t = l.contains t) :
    (b.bbs.all &&& m == 0) = l.all fun s => ((abs b).at s).isNone := by
  rw [mask_all _ m l hl hm]
  apply all_congr_mem
  intro t ht
  have := occ_abs b hw.bbs t (hl t ht)
  unfold occOf at this
  rw [← this]
  cases (abs b).at t <;> rfl

theorem safe_part (b : Board) (hw : WF b) (m : BB) (l : List Nat) (hl : ∀ t ∈ l, t < 64)
    (hm : ∀ t, t < 64 → testBit m t = l.contains t) :
    (b.attackedSquares b.turn &&& m == 0) = l.all fun s => !Rules.attacked (abs b) s (absColor b.turn.opp) := by
  rw [mask_all _ m l hl hm]
  apply all_congr_mem
  intro t ht
  rw [attacked_exact_pbb b hw.bbs b.turn t (hl t ht)]

theorem rook_corner (b : Board) (s : Square) (hs : IR s) (c : Color) (h : b.pieceAt s = some ⟨.rook, c⟩) :
    ((abs b).at s.idx == some ⟨absColor c, .rook⟩) = true := by
  rw [abs_at_sq b s hs, h]
  simp [absPiece, absPK]

/-- `castling_ability` against the spec's condition, for any right / rook corner / pair of masks: the masks are read as
    the lists of squares the spec quantifies over, and an available right puts the rook on its corner (`RightsConsistent`) -/
theorem castle_cond (b : Board) (hw : WF b) (r : Bool) (between safe : BB) (c : Color) (ht : b.turn = c)
    (corner : Square) (hc : IR corner) (le ls : List Nat) (hle : ∀ t ∈ le, t < 64) (hls : ∀ t ∈ ls, t < 64)
    (hb : ∀ t, t < 64 → testBit between t = le.contains t) (hs : ∀ t, t < 64 → testBit safe t = ls.contains t)
    (hr : r = true → b.pieceAt corner = some ⟨.rook, c⟩) :
    (r && (b.bbs.all &&& between == 0) && (b.attackedSquares b.turn &&& safe == 0)) =
      (r && (abs b).at corner.idx == some ⟨absColor c, .rook⟩ && (le.all fun s => ((abs b).at s).isNone)
        && (ls.all fun s => !Rules.attacked (abs b) s (absColor c.opp))) := by
  rw [empty_part b hw between le hle hb, safe_part b hw safe ls hls hs, ht]
  cases r
  · rfl
  · rw [rook_corner b corner hc c (hr rfl)]; rfl

/-- the king's home square, as the rules count squares -/
def homeN : Color → Nat | .white => 4 | .black => 60

/-- `Rules.castleMoves` over the colour parameters, for the position a board stands for -/
theorem castleMoves_eq (b : Board) (c : Color) : Rules.castleMoves (abs b) (absColor c) =
    if (abs b).at (homeN c) != some ⟨absColor c, .king⟩ then [] else
      (if b.rights.get (2 * c.idx) && (abs b).at (homeN c + 3) == some ⟨absColor c, .rook⟩ &&
          ([homeN c + 1, homeN c + 2].all fun s => ((abs b).at s).isNone) &&
          ([homeN c, homeN c + 1, homeN c + 2].all fun s => !Rules.attacked (abs b) s (absColor c.opp))
        then [(⟨homeN c, homeN c + 2, none⟩ : Rules.Move)] else []) ++
      (if b.rights.get (2 * c.idx + 1) && (abs b).at (homeN c - 4) == some ⟨absColor c, .rook⟩ &&
          ([homeN c - 1, homeN c - 2, homeN c - 3].all fun s => ((abs b).at s).isNone) &&
          ([homeN c, homeN c - 1, homeN c - 2].all fun s => !Rules.attacked (abs b) s (absColor c.opp))
        then [(⟨homeN c, homeN c - 2, none⟩ : Rules.Move)] else []) := by
  cases c <;> rfl

theorem cond_k (b : Board) (hw : WF b) (c : Color) (ht : b.turn = c) : b.castlingAbility (2 * c.idx) =
    (b.rights.get (2 * c.idx) && (abs b).at (homeN c + 3) == some ⟨absColor c, .rook⟩ &&
      ([homeN c + 1, homeN c + 2].all fun s => ((abs b).at s).isNone) &&
      ([homeN c, homeN c + 1, homeN c + 2].all fun s => !Rules.attacked (abs b) s (absColor c.opp))) := by
  cases c
  · exact castle_cond b hw b.rights.wk 0x60 0x70 .white ht ⟨0, 7⟩ (by decide) [5, 6] [4, 5, 6] (by decide) (by decide)
      (fun t h => (masks_fin ⟨t, h⟩).1) (fun t h => (masks_fin ⟨t, h⟩).2.1) hw.rights.1
  · exact castle_cond b hw b.rights.bk 0x6000000000000000 0x7000000000000000 .black ht ⟨7, 7⟩ (by decide) [61, 62]
      [60, 61, 62] (by decide) (by decide) (fun t h => (masks_fin ⟨t, h⟩).2.2.2.2.1)
      (fun t h => (masks_fin ⟨t, h⟩).2.2.2.2.2.1) hw.rights.2.2.1

theorem cond_q (b : Board) (hw : WF b) (c : Color) (ht : b.turn = c) : b.castlingAbility (2 * c.idx + 1) =
    (b.rights.get (2 * c.idx + 1) && (abs b).at (homeN c - 4) == some ⟨absColor c, .rook⟩ &&
      ([homeN c - 1, homeN c - 2, homeN c - 3].all fun s => ((abs b).at s).isNone) &&
      ([homeN c, homeN c - 1, homeN c - 2].all fun s => !Rules.attacked (abs b) s (absColor c.opp))) := by
  cases c
  · exact castle_cond b hw b.rights.wq 0xE 0x1C .white ht ⟨0, 0⟩ (by decide) [3, 2, 1] [4, 3, 2] (by decide) (by decide)
      (fun t h => (masks_fin ⟨t, h⟩).2.2.1) (fun t h => (masks_fin ⟨t, h⟩).2.2.2.1) hw.rights.2.1
  · exact castle_cond b hw b.rights.bq 0x0E00000000000000 0x1C00000000000000 .black ht ⟨7, 0⟩ (by decide) [59, 58, 57]
      [60, 59, 58] (by decide) (by decide) (fun t h => (masks_fin ⟨t, h⟩).2.2.2.2.2.2.1)
      (fun t h => (masks_fin ⟨t, h⟩).2.2.2.2.2.2.2) hw.rights.2.2.2

theorem ofIdx_eq_home (i : Nat) (c : Color) : Square.ofIdx i = ⟨homeR c, 4⟩ ↔ i = homeN c :=
  ⟨fun e => by rw [← ofIdx_idx i, e]; cases c <;> rfl, fun e => by rw [e]; cases c <;> rfl⟩

/-- `KingsHome`, for either colour -/
theorem home_of_right (b : Board) (hw : WF b) (c : Color)
    (h : b.rights.get (2 * c.idx) = true ∨ b.rights.get (2 * c.idx + 1) = true) (s : Square) (hs : IR s)
    (hk : b.pieceAt s = some ⟨.king, c⟩) : s = ⟨homeR c, 4⟩ := by
  cases c
  · exact hw.kings.1 h s hs.1 hs.2 hk
  · exact hw.kings.2 h s hs.1 hs.2 hk

theorem castle_eq (b : Board) (hw : WF b) (i : Nat) (hi : i < 64) (c : Color)
    (hp : b.pieceAt (Square.ofIdx i) = some ⟨.king, c⟩) (hc : c = b.turn) :
    ((castleM (Square.ofIdx i) b c).filter rangeOK).map absMove = Rules.castleMoves (abs b) (absColor c) := by
  rw [castleMoves_eq]
  by_cases h4 : i = homeN c
  · subst h4
    have hk : (abs b).at (homeN c) = some ⟨absColor c, .king⟩ := by
      rw [abs_at b _ hi, hp]; rfl
    rw [hk, ← cond_k b hw c hc.symm, ← cond_q b hw c hc.symm, (ofIdx_eq_home _ c).mpr rfl]
    unfold castleM
    cases c <;> cases b.castlingAbility (2 * _) <;> cases b.castlingAbility (2 * _ + 1) <;> rfl
  · -- a king off its home square: the side has no right left (`KingsHome`), neither generator offers anything
    have hne : ¬ Square.ofIdx i = ⟨homeR c, 4⟩ := mt (ofIdx_eq_home i c).mp h4
    have h0 : b.rights.get (2 * c.idx) = false :=
      Bool.eq_false_iff.mpr fun h => hne (home_of_right b hw c (.inl h) _ (ofIdx_IR i hi) hp)
    have h1 : b.rights.get (2 * c.idx + 1) = false :=
      Bool.eq_false_iff.mpr fun h => hne (home_of_right b hw c (.inr h) _ (ofIdx_IR i hi) hp)
    unfold castleM
    rw [if_neg hne, h0, h1]
    simp

theorem king_not_castle_dst (i s : Nat) (hi : i < 64) (hs : s < 64) (h : s = i + 2 ∨ s + 2 = i) :
    testBit (kingAttacks i) s = false := by
  cases ht : testBit (kingAttacks i) s
  · rfl
  · have := king_geo i s hi hs ht; omega

/-- a castling move starts on the king's square and does not end on a square the king attacks -/
theorem castleM_abs (b : Board) (i : Nat) (c : Color) :
    ∀ mv ∈ ((castleM (Square.ofIdx i) b c).filter rangeOK).map absMove,
      mv.src = i ∧ testBit (kingAttacks i) mv.dst = false := by
  intro mv hmv
  obtain ⟨m, hm, rfl⟩ := List.mem_map.mp hmv
  have hm := (List.mem_filter.mp hm).1
  simp only [castleM, List.mem_ite_nil_right, List.mem_append, List.mem_singleton] at hm
  obtain ⟨h, hm⟩ := hm
  have hi := (ofIdx_eq_home i c).mp h
  subst hi
  rcases hm with ⟨-, rfl⟩ | ⟨-, rfl⟩
  · exact ⟨ofIdx_idx _, king_not_castle_dst _ _ (by cases c <;> decide) (by cases c <;> decide)
      (.inl (by cases c <;> rfl))⟩
  · exact ⟨ofIdx_idx _, king_not_castle_dst _ _ (by cases c <;> decide) (by cases c <;> decide)
      (.inr (by cases c <;> rfl))⟩

theorem nodup_castleMoves (p : Rules.Pos) (c : Rules.Color) : (Rules.castleMoves p c).Nodup := by
  have two : ∀ (m m' : Rules.Move) (x y : Bool), m ≠ m' →
      ((if x then [m] else []) ++ (if y then [m'] else [])).Nodup := by
    intro m m' x y h
    cases x <;> cases y <;> simp [h]
  unfold Rules.castleMoves
  cases c <;> simp only <;> split <;> first | exact List.nodup_nil | exact two _ _ _ _ (by decide)

theorem king_perm (b : Board) (hw : WF b) (i : Nat) (hi : i < 64) (c : Color)
    (hp : b.pieceAt (Square.ofIdx i) = some ⟨.king, c⟩) (hc : c = b.turn) :
    FromSq i ((kindMoveset ⟨.king, c⟩ (Square.ofIdx i) b).map absMove)
      (((Rules.attacksFrom (abs b) i ⟨absColor c, .king⟩).filter (notOwn (abs b) (absColor c))).map
          (fun t => (⟨i, t, none⟩ : Rules.Move))
        ++ Rules.castleMoves (abs b) (absColor c)) := by
  have hk : kindMoveset ⟨.king, c⟩ (Square.ofIdx i) b = (kingMoveset (Square.ofIdx i) b c).filter rangeOK := rfl
  rw [hk, kingMoveset_eq, List.filter_append, List.map_append, ofIdx_idx]
  obtain ⟨s, s3⟩ := simple_perm b hw i hi ⟨.king, c⟩ hp (kingAttacks i)
    (kindAttacks_exact b hw.bbs ⟨.king, c⟩ i hi)
  have c2 := castleM_abs b i c
  have ce := castle_eq b hw i hi c hp hc
  refine ⟨?_, ?_, ?_⟩
  · rw [ce]
    exact List.Perm.append s.perm (List.Perm.refl _)
  · -- a castling move does not end on a square the king attacks
    refine List.nodup_append.mpr ⟨s.nodup, ce ▸ nodup_castleMoves _ _, fun x hx y hy e => ?_⟩
    subst e
    have h2 := (c2 x hy).2
    rw [s3 x hx] at h2; cases h2
  · intro mv hmv
    rcases List.mem_append.mp hmv with h | h
    · exact s.src mv h
    · exact (c2 mv h).1

end RCE.Proofs.MoveGen
