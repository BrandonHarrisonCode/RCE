import RCE.Proofs.MoveGenSimple
namespace RCE.Proofs.MoveGen
open RCE RCE.Proofs.BoardWF RCE.Proofs.Abs RCE.Proofs.BoardPBB RCE.Proofs.BoardBits RCE.Proofs.Sliders
open RCE.Proofs.MoveGenList RCE.Proofs.BoardGen RCE.Proofs.RefineGen

/-! C01, pawns: `Pawn::get_moveset` followed by the range filter of `Kind::get_moveset`, read as
    (from, to, promotion) triples, is a permutation of the spec's `Rules.pawnMoves`.

    Both generators are first brought into the shape `dests.flatMap expand` (`explode_abs`, `pawnMoves_eq`).
    Each destination list is then written as a concatenation of candidates `cand cond s` over the four squares
    a pawn looks at (`dOf_base`, `sPushes_eq`, `sCaps_eq`); the squares are pairwise different (`PG`, checked once
    per colour and square), the conditions agree square by square, so the lists have the same counts.
    Helper names live in `RCE.Proofs.MoveGen.Pawn`. -/
namespace Pawn

/-- the four squares a pawn on square `i` looks at, as `Square + Direction` computes them (in range or not): one and two
    ranks ahead, the two diagonals -/
def sq1 (c : Color) (i : Nat) : Square := (Square.ofIdx i).add (pdr c) 0
def sq2 (c : Color) (i : Nat) : Square := (sq1 c i).add (pdr c) 0
def sqE (c : Color) (i : Nat) : Square := (sq1 c i).add 0 1
def sqW (c : Color) (i : Nat) : Square := (sq1 c i).add 0 (-1)

/-- on these four squares `Rules.step` and the model's square arithmetic and masks agree, and the squares differ; decided
    once per colour and square (`pg_fin`) -/
def PG (c : Color) (i : Nat) : Prop :=
  Rules.step i 0 (pdr c) = (if inR (sq1 c i) then some (sq1 c i).idx else none) ∧
  (i / 8 = pStart c → inR (sq1 c i) = true ∧ inR (sq2 c i) = true ∧ Rules.step (sq1 c i).idx 0 (pdr c) = some (sq2 c i).idx) ∧
  Rules.step i 1 (pdr c) = (if inR (sqE c i) then some (sqE c i).idx else none) ∧
  Rules.step i (-1) (pdr c) = (if inR (sqW c i) then some (sqW c i).idx else none) ∧
  nextMask c (Square.ofIdx i) 8 = (if inR (sq1 c i) then bit (sq1 c i).idx else 0) ∧
  (i / 8 = pStart c → nextMask c (Square.ofIdx i) 16 = bit (sq2 c i).idx) ∧
  (i / 8 = pEp c → (sqE c i).rank = epRank c ∧ (sqW c i).rank = epRank c) ∧
  [(sq1 c i).idx, (sq2 c i).idx, (sqE c i).idx, (sqW c i).idx].Nodup

instance (c : Color) (i : Nat) : Decidable (PG c i) := by unfold PG; infer_instance

theorem pg_fin : ∀ i : Fin 64, PG .white i.val ∧ PG .black i.val := by decide +kernel

theorem pg (c : Color) (i : Nat) (hi : i < 64) : PG c i := by
  have := pg_fin ⟨i, hi⟩
  cases c
  · exact this.1
  · exact this.2

/-- `Rules.pawnMoves` in parts: the promotions of a destination, the push destinations, one capture destination, both -/
def sExpand (sq lastRank t : Nat) : List Rules.Move :=
  if t / 8 == lastRank then Rules.promoKinds.map fun k => ⟨sq, t, some k⟩ else [⟨sq, t, none⟩]

def sPushes (p : Rules.Pos) (sq : Nat) (dr : Int) (startRank : Nat) : List Nat :=
  match Rules.step sq 0 dr with
  | some t1 => if (p.at t1).isNone then
      t1 :: (if sq / 8 == startRank then
               match Rules.step t1 0 dr with
               | some t2 => if (p.at t2).isNone then [t2] else []
               | none => []
             else [])
      else []
  | none => []

def sCapF (p : Rules.Pos) (sq : Nat) (dr : Int) (c : Rules.Color) (epRank : Nat) (df : Int) : Option Nat :=
  match Rules.step sq df dr with
  | some t => match p.at t with
    | some q => if q.color != c then some t else none
    | none => if sq / 8 == epRank && p.ep == some (t % 8) then some t else none
  | none => none

def sCaps (p : Rules.Pos) (sq : Nat) (dr : Int) (c : Rules.Color) (epRank : Nat) : List Nat :=
  [(1 : Int), -1].filterMap (sCapF p sq dr c epRank)

theorem pawnMoves_eq (p : Rules.Pos) (sq : Nat) (c : Color) :
    Rules.pawnMoves p sq (absColor c) =
      (sPushes p sq (pdr c) (pStart c) ++ sCaps p sq (pdr c) (absColor c) (pEp c)).flatMap (sExpand sq (pBack c)) := by
  cases c <;> rfl

theorem explode_one (c : Color) (i : Nat) (hi : i < 64) (p : Ply) (h1 : p.start = Square.ofIdx i)
    (h2 : p.promoted = none) (h3 : p.start ≠ p.dest) :
    ((promoExplode c p).filter rangeOK).map absMove =
      if inR p.dest then sExpand i (pBack c) p.dest.idx else [] := by
  -- the promotions of a move go where the move goes
  have hr : ∀ m ∈ promoExplode c p, rangeOK m = inR p.dest := fun m hm => by
    rcases mem_promoExplode c p m hm with rfl | ⟨-, q, -, -, rfl⟩ <;> exact rangeOK_eq i hi _ h1 h3
  cases hd : inR p.dest
  · rw [List.filter_eq_nil_iff.mpr fun m hm => by rw [hr m hm, hd]; exact Bool.false_ne_true]
    rfl
  · rw [List.filter_eq_self.mpr fun m hm => by rw [hr m hm, hd], if_pos rfl]
    unfold promoExplode sExpand
    rw [idx_div _ ((inR_iff _).mp hd)]
    split
    · simp [absMove, mkPly, Rules.promoKinds, absPK, h1, ofIdx_idx]
    · simp [absMove, h1, h2, ofIdx_idx]

/-- the in-range destinations of a list of moves -/
def dOf (L : List Ply) : List Nat := (L.filter fun p => inR p.dest).map fun p => p.dest.idx

theorem explode_abs (c : Color) (i : Nat) (hi : i < 64) (L : List Ply)
    (h : ∀ p ∈ L, p.start = Square.ofIdx i ∧ p.promoted = none ∧ p.start ≠ p.dest) :
    ((L.flatMap (promoExplode c)).filter rangeOK).map absMove = (dOf L).flatMap (sExpand i (pBack c)) := by
  unfold dOf
  induction L with
  | nil => rfl
  | cons p L ih =>
    obtain ⟨h1, h2, h3⟩ := h p List.mem_cons_self
    rw [List.flatMap_cons, List.filter_append, List.map_append, explode_one c i hi p h1 h2 h3,
      ih fun q hq => h q (List.mem_cons_of_mem _ hq), List.filter_cons]
    cases inR p.dest <;> simp

/-- the square `s` as a destination: present if it is on the board and its condition holds -/
def cand (c : Bool) (s : Square) : List Nat := if inR s && c then [s.idx] else []

theorem mem_cand (c : Bool) (s : Square) (t : Nat) : t ∈ cand c s ↔ inR s = true ∧ c = true ∧ t = s.idx := by
  unfold cand
  cases inR s <;> cases c <;> simp

theorem cand_congr {c d : Bool} {s : Square} (h : inR s = true → c = d) : cand c s = cand d s := by
  unfold cand
  cases hs : inR s
  · rfl
  · rw [h hs]

/-- two reasons for the same square that exclude each other -/
theorem cand_or (c e : Bool) (s : Square) (h : ¬ (c = true ∧ e = true)) :
    cand (c || e) s = cand c s ++ cand e s := by
  unfold cand
  cases c <;> cases e <;> cases inR s <;> first | rfl | exact absurd ⟨rfl, rfl⟩ h

theorem cand_sublist (c : Bool) (s : Square) : (cand c s).Sublist [s.idx] := by
  unfold cand
  split
  · exact List.Sublist.refl _
  · exact List.nil_sublist _

theorem dOf_append (L M : List Ply) : dOf (L ++ M) = dOf L ++ dOf M := by
  unfold dOf; rw [List.filter_append, List.map_append]

theorem dOf_nil : dOf [] = [] := rfl

theorem dOf_ite (c : Bool) (p : Ply) : dOf (if c then [p] else []) = cand c p.dest := by
  unfold dOf cand
  cases c <;> cases h : inR p.dest <;> simp [h]

theorem dOf_caps (sq : Square) (pc : Kind) (l : List Nat) (h : ∀ s ∈ l, s < 64) :
    dOf (l.map fun s => mkPly sq (Square.ofIdx s) pc) = l := by
  unfold dOf
  rw [List.filter_map, List.map_map]
  show ((l.filter fun s => inR (Square.ofIdx s)).map fun s => (Square.ofIdx s).idx) = l
  rw [List.filter_eq_self.mpr fun s hs => (inR_iff _).mpr (ofIdx_IR s (h s hs))]
  exact (List.map_congr_left fun s _ => ofIdx_idx s).trans (List.map_id _)

/-- the model's en-passant condition for a diagonal target -/
def epB (b : Board) (c : Color) (i : Nat) (s : Square) : Bool := i / 8 == pEp c && b.ep == some s.file

/-- the model's destinations before the promotion step, the mask tests read as emptiness tests on the mailbox -/
theorem dOf_base (b : Board) (hw : WF b) (c : Color) (i : Nat) (hi : i < 64) :
    dOf (mCaps (Square.ofIdx i) b c ++ mSingle (Square.ofIdx i) b c ++ mDouble (Square.ofIdx i) b c ++
      mEps (Square.ofIdx i) b c) =
    bitIndices (pawnAttacks (c == .white) i &&& sameColorBB b c.opp) ++
    cand (b.pieceAt (sq1 c i)).isNone (sq1 c i) ++
    cand (i / 8 == pStart c && (b.pieceAt (sq1 c i)).isNone && (b.pieceAt (sq2 c i)).isNone) (sq2 c i) ++
    (cand (epB b c i (sqE c i)) (sqE c i) ++ cand (epB b c i (sqW c i)) (sqW c i)) := by
  obtain ⟨-, g2, -, -, g5, g6, -⟩ := pg c i hi
  rw [dOf_append, dOf_append, dOf_append]
  congr 1
  congr 1
  congr 1
  · unfold mCaps
    rw [ofIdx_idx]
    exact dOf_caps _ _ _ fun s hs => ((mem_bitIndices _ _).mp hs).1
  · refine (dOf_ite _ _).trans (cand_congr (s := sq1 c i) fun h => ?_)
    rw [g5, if_pos h]
    exact empty_test b hw _ ((inR_iff _).mp h)
  · refine (dOf_ite _ _).trans (cand_congr (s := sq2 c i) fun _ => ?_)
    show (i / 8 == pStart c && _ && _) = _
    cases h3 : (i / 8 == pStart c)
    · rfl
    · have hs : i / 8 = pStart c := by simpa using h3
      obtain ⟨r1, r2, -⟩ := g2 hs
      rw [g5, if_pos r1, g6 hs, empty_test b hw _ ((inR_iff _).mp r1), empty_test b hw _ ((inR_iff _).mp r2)]
  · unfold mEps epB
    show dOf (if (i / 8 == pEp c) = true then _ else _) = _
    cases (i / 8 == pEp c)
    · simp [cand, dOf]
    · rw [if_pos rfl, dOf_append]
      exact congr (congrArg _ (dOf_ite _ _)) (dOf_ite _ _)

/-- the squares the generator looks at are pairwise different (as indices) -/
theorem pg_nodup (c : Color) (i : Nat) (hi : i < 64) :
    [(sq1 c i).idx, (sq2 c i).idx, (sqE c i).idx, (sqW c i).idx].Nodup :=
  (pg c i hi).2.2.2.2.2.2.2

theorem filter_cand (q : Nat → Bool) (s : Square) : (cand true s).filter q = cand (q s.idx) s := by
  unfold cand
  cases inR s <;> cases h : q s.idx <;> simp [h]

/-- the capture destinations are the diagonal targets holding an enemy piece: the pawn's attack set is the spec's two
    diagonal steps (C06), masked like any other piece's -/
theorem caps_perm (b : Board) (c : Color) (i : Nat) (hi : i < 64) :
    (bitIndices (pawnAttacks (c == .white) i &&& sameColorBB b c.opp)).Perm
      (cand (testBit (sameColorBB b c.opp) (sqE c i).idx) (sqE c i) ++
       cand (testBit (sameColorBB b c.opp) (sqW c i).idx) (sqW c i)) := by
  obtain ⟨-, -, g3, g4, -⟩ := pg c i hi
  have hspec : ([(1, Rules.pawnDir (if (c == Color.white) = true then .white else .black)),
      (-1, Rules.pawnDir (if (c == Color.white) = true then .white else .black))].filterMap
        fun d => Rules.step i d.1 d.2) = cand true (sqE c i) ++ cand true (sqW c i) := by
    simp only [List.filterMap_cons, List.filterMap_nil, pawnDir_eq, g3, g4, cand]
    cases inR (sqE c i) <;> cases inR (sqW c i) <;> rfl
  have hsub : (cand true (sqE c i) ++ cand true (sqW c i)).Sublist [(sqE c i).idx, (sqW c i).idx] :=
    (cand_sublist _ _).append (cand_sublist _ _)
  have hex := pawn_exact (c == .white) i hi
  rw [hspec] at hex
  have := bitIndices_perm _ (sameColorBB b c.opp) _ hex (hsub.nodup ((pg_nodup c i hi).sublist (by simp)))
    fun t ht => by
      rcases List.mem_append.mp ht with h | h <;> obtain ⟨h1, -, rfl⟩ := (mem_cand _ _ _).mp h <;>
        exact idx_lt _ ((inR_iff _).mp h1)
  rwa [List.filter_append, filter_cand, filter_cand] at this

theorem at_isNone (b : Board) (s : Square) (h : inR s = true) :
    ((abs b).at s.idx).isNone = (b.pieceAt s).isNone := by
  rw [abs_at_sq b s ((inR_iff s).mp h)]
  cases b.pieceAt s <;> rfl

theorem sPushes_eq (b : Board) (c : Color) (i : Nat) (hi : i < 64) :
    sPushes (abs b) i (pdr c) (pStart c) =
      cand (b.pieceAt (sq1 c i)).isNone (sq1 c i) ++
      cand (i / 8 == pStart c && (b.pieceAt (sq1 c i)).isNone && (b.pieceAt (sq2 c i)).isNone) (sq2 c i) := by
  obtain ⟨g1, g2, -⟩ := pg c i hi
  unfold sPushes cand
  rw [g1]
  cases h3 : (i / 8 == pStart c)
  · cases h1 : inR (sq1 c i)
    · simp
    · simp only [if_pos, at_isNone b _ h1]
      cases (b.pieceAt (sq1 c i)).isNone <;> simp
  · obtain ⟨r1, r2, e⟩ := g2 (by simpa using h3)
    simp only [r1, r2, if_pos, e, at_isNone b _ r1, at_isNone b _ r2]
    cases (b.pieceAt (sq1 c i)).isNone <;> cases (b.pieceAt (sq2 c i)).isNone <;> rfl

/-- the spec's capture test on a diagonal target, read on the board -/
def capB (b : Board) (c : Color) (i : Nat) (s : Square) : Bool :=
  match b.pieceAt s with
  | some k => k.color != c
  | none => epB b c i s

/-- over any position `p` that has on `s` and as en-passant file what `abs b` has (with `abs b` itself in the statement,
    reducing the `match` on `(abs b).at s.idx` makes the kernel evaluate the 64-entry array) -/
theorem sCapF_eq (b : Board) (c : Color) (i : Nat) (df : Int) (s : Square) (p : Rules.Pos)
    (hat : inR s = true → p.at s.idx = (b.pieceAt s).map absPiece) (hep : p.ep = b.ep)
    (hstep : Rules.step i df (pdr c) = if inR s then some s.idx else none) :
    sCapF p i (pdr c) (absColor c) (pEp c) df = if inR s && capB b c i s then some s.idx else none := by
  rw [sCapF, hstep]
  cases h : inR s
  · rfl
  · simp only [if_pos, Bool.true_and]
    rw [hat h, hep, idx_mod s ((inR_iff s).mp h)]
    unfold capB
    cases b.pieceAt s with
    | none => rfl
    | some k =>
      show (if ((absColor k.color != absColor c) = true) then _ else _) = _
      have : (absColor k.color != absColor c) = (k.color != c) := by
        unfold bne; rw [absColor_beq]
      rw [this]

theorem sCaps_eq (b : Board) (c : Color) (i : Nat) (hi : i < 64) :
    sCaps (abs b) i (pdr c) (absColor c) (pEp c) =
      cand (capB b c i (sqE c i)) (sqE c i) ++ cand (capB b c i (sqW c i)) (sqW c i) := by
  obtain ⟨-, -, g3, g4, -⟩ := pg c i hi
  have hat : ∀ s, inR s = true → (abs b).at s.idx = (b.pieceAt s).map absPiece :=
    fun s h => abs_at_sq b s ((inR_iff s).mp h)
  unfold sCaps cand
  rw [List.filterMap_cons, List.filterMap_cons, List.filterMap_nil, sCapF_eq b c i 1 _ _ (hat _) rfl g3,
    sCapF_eq b c i (-1) _ _ (hat _) rfl g4]
  cases (inR (sqE c i) && capB b c i (sqE c i)) <;> cases (inR (sqW c i) && capB b c i (sqW c i)) <;> rfl

theorem epRank_eq (c : Color) : (if c = Color.white then 5 else 2) = epRank c := by cases c <;> rfl

/-- the spec captures on a diagonal target for one of two reasons that exclude each other: an enemy piece stands
    there, or it is the en-passant square (which `WF` says is empty) -/
theorem cand_capB (b : Board) (hw : WF b) (c : Color) (hc : c = b.turn) (i : Nat) (s : Square)
    (hr : i / 8 = pEp c → s.rank = epRank c) :
    cand (capB b c i s) s = cand (testBit (sameColorBB b c.opp) s.idx) s ++ cand (epB b c i s) s := by
  cases h : inR s
  · unfold cand; rw [h]; rfl
  · have key : capB b c i s = (testBit (sameColorBB b c.opp) s.idx || epB b c i s) ∧
        ¬ (testBit (sameColorBB b c.opp) s.idx = true ∧ epB b c i s = true) := by
      rw [sameColor_bit b hw.bbs c.opp s ((inR_iff s).mp h)]
      unfold capB
      cases hp : b.pieceAt s with
      | none => exact ⟨rfl, fun h => by cases h.1⟩
      | some k =>
        have he : epB b c i s = false := Bool.eq_false_iff.mpr fun he => by
          unfold epB at he
          simp only [Bool.and_eq_true, beq_iff_eq] at he
          have := (hw.ep.2 _ he.2).2.2
          rw [← hc, epRank_eq, ← hr he.1, hp] at this
          cases this
        rw [he]
        refine ⟨?_, fun h => by cases h.2⟩
        rcases k with ⟨pk, kc⟩
        cases kc <;> cases c <;> rfl
    rw [key.1, cand_or _ _ _ key.2]

theorem base_facts (b : Board) (hw : WF b) (c : Color) (hc : c = b.turn) (i : Nat) (hi : i < 64) :
    ∀ p ∈ mCaps (Square.ofIdx i) b c ++ mSingle (Square.ofIdx i) b c ++ mDouble (Square.ofIdx i) b c ++
      mEps (Square.ofIdx i) b c, p.start = Square.ofIdx i ∧ p.promoted = none ∧ p.start ≠ p.dest := by
  have hir := ofIdx_IR i hi
  have h1 : ∀ f, Square.ofIdx i ≠ ⟨fr c (Square.ofIdx i).rank, f⟩ :=
    fun f e => fr_ne c _ hir.1 (congrArg Square.rank e).symm
  intro p hp
  rcases mem_pawnBase b hw _ hir c hc p hp with ⟨s, hs, rfl⟩ | ⟨rfl, -⟩ | ⟨rfl, -⟩ | ⟨f, rfl, -⟩
  · refine ⟨rfl, rfl, fun e => ?_⟩
    rw [ofIdx_idx, mem_bitIndices, testBit_and, Bool.and_eq_true] at hs
    -- a pawn attacks the rank in front of it
    have := pawnAttacks_fwd c i s hi hs.1 hs.2.1
    rw [show Square.ofIdx i = Square.ofIdx s from e] at this
    cases c <;> simp only [fwd] at this <;> omega
  · exact ⟨rfl, rfl, h1 _⟩
  · exact ⟨rfl, rfl, fun e => fr_fr_ne c _ hir.1 (congrArg Square.rank e).symm⟩
  · exact ⟨rfl, rfl, h1 _⟩

theorem mem_sExpand (i l t : Nat) (x : Rules.Move) (h : x ∈ sExpand i l t) : x.src = i ∧ x.dst = t := by
  unfold sExpand at h
  split at h
  · rw [List.mem_map] at h
    obtain ⟨k, -, rfl⟩ := h
    exact ⟨rfl, rfl⟩
  · rw [List.mem_singleton] at h; subst h; exact ⟨rfl, rfl⟩

theorem nodup_sExpand (i l t : Nat) : (sExpand i l t).Nodup := by
  unfold sExpand
  split
  · simp [Rules.promoKinds]
  · simp

theorem nodup_expand (i l : Nat) (ds : List Nat) (h : ds.Nodup) : (ds.flatMap (sExpand i l)).Nodup := by
  apply nodup_flatMap _ _ h (fun a _ => nodup_sExpand i l a)
  intro a _ a' _ hne x hx y hy e
  apply hne
  rw [← (mem_sExpand _ _ _ _ hx).2, ← (mem_sExpand _ _ _ _ hy).2, e]

end Pawn
open Pawn

/-- the pawn moves the engine generates from one square are, as (from,to,promotion) triples, exactly the spec's -/
theorem pawn_perm (b : Board) (hw : WF b) (i : Nat) (hi : i < 64) (c : Color) (hc : c = b.turn) :
    FromSq i ((kindMoveset ⟨.pawn, c⟩ (Square.ofIdx i) b).map absMove) (Rules.pawnMoves (abs b) i (absColor c)) := by
  obtain ⟨-, -, -, -, -, -, g7, -⟩ := pg c i hi
  have hm : (kindMoveset ⟨.pawn, c⟩ (Square.ofIdx i) b).map absMove =
      (dOf (mCaps (Square.ofIdx i) b c ++ mSingle (Square.ofIdx i) b c ++ mDouble (Square.ofIdx i) b c ++
        mEps (Square.ofIdx i) b c)).flatMap (sExpand i (pBack c)) := by
    rw [kindMoveset_eq]
    show ((pawnMoveset (Square.ofIdx i) b c).filter rangeOK).map absMove = _
    rw [pawnMoveset_eq, explode_abs c i hi _ (base_facts b hw c hc i hi)]
  have hns : (sPushes (abs b) i (pdr c) (pStart c) ++ sCaps (abs b) i (pdr c) (absColor c) (pEp c)).Nodup := by
    rw [sPushes_eq b c i hi, sCaps_eq b c i hi]
    exact List.Nodup.sublist (((cand_sublist _ _).append (cand_sublist _ _)).append
      ((cand_sublist _ _).append (cand_sublist _ _))) (pg_nodup c i hi)
  have hperm : (dOf (mCaps (Square.ofIdx i) b c ++ mSingle (Square.ofIdx i) b c ++ mDouble (Square.ofIdx i) b c ++
      mEps (Square.ofIdx i) b c)).Perm
      (sPushes (abs b) i (pdr c) (pStart c) ++ sCaps (abs b) i (pdr c) (absColor c) (pEp c)) := by
    rw [dOf_base b hw c i hi, sPushes_eq b c i hi, sCaps_eq b c i hi,
      cand_capB b hw c hc i _ (fun h => (g7 h).1), cand_capB b hw c hc i _ (fun h => (g7 h).2)]
    apply List.perm_iff_count.mpr
    intro t
    have := (caps_perm b c i hi).count_eq t
    simp only [List.count_append] at this ⊢
    omega
  rw [hm, pawnMoves_eq (abs b) i c]
  refine ⟨hperm.flatMap_right _, nodup_expand _ _ _ (hperm.nodup_iff.mpr hns), ?_⟩
  intro mv hmv
  obtain ⟨t, -, ht⟩ := List.mem_flatMap.mp hmv
  exact (mem_sExpand _ _ _ _ ht).1

end RCE.Proofs.MoveGen
