import RCE.Proofs.MoveGenKing
import RCE.Proofs.MoveGenPawn
/-! C01, part 4: pseudo-legal generation square by square — `get_all_moves` read as (from, to, promotion)
    triples is a duplicate-free permutation of `Rules.pseudoMoves`. -/
namespace RCE.Proofs.MoveGen
open RCE RCE.Proofs.BoardWF RCE.Proofs.Abs RCE.Proofs.BoardPBB RCE.Proofs.BoardBits RCE.Proofs.Sliders
open RCE.Proofs.MoveGenList

/-- what `Rules.pseudoMoves` offers for the piece `pc` standing on `sq` -/
def specPiece (p : Rules.Pos) (sq : Nat) (pc : Rules.Piece) : List Rules.Move :=
  match pc.kind with
  | .pawn => Rules.pawnMoves p sq pc.color
  | .king => ((Rules.attacksFrom p sq pc).filter (notOwn p pc.color)).map (fun t => ⟨sq, t, none⟩)
               ++ Rules.castleMoves p pc.color
  | _ => ((Rules.attacksFrom p sq pc).filter (notOwn p pc.color)).map fun t => ⟨sq, t, none⟩

theorem pseudoMoves_eq (p : Rules.Pos) : Rules.pseudoMoves p =
    (List.range 64).flatMap fun sq => match p.at sq with
      | some pc => if pc.color != p.turn then [] else specPiece p sq pc
      | none => [] := by
  unfold Rules.pseudoMoves Rules.squares
  rfl

theorem simple_kind (b : Board) (hw : WF b) (i : Nat) (hi : i < 64) (p : Kind)
    (hp : b.pieceAt (Square.ofIdx i) = some p)
    (hk : kindMoveset p (Square.ofIdx i) b =
      (simpleMoveset (kindAttacks p i b.bbs.all) (Square.ofIdx i) b p).filter rangeOK)
    (hs : specPiece (abs b) i (absPiece p) =
      ((Rules.attacksFrom (abs b) i (absPiece p)).filter (notOwn (abs b) (absPiece p).color)).map
        fun t => ⟨i, t, none⟩) :
    FromSq i ((kindMoveset p (Square.ofIdx i) b).map absMove) (specPiece (abs b) i (absPiece p)) := by
  rw [hk, hs]
  exact (simple_perm b hw i hi p hp _ (kindAttacks_exact b hw.bbs p i hi)).1

theorem kind_perm (b : Board) (hw : WF b) (i : Nat) (hi : i < 64) (p : Kind)
    (hp : b.pieceAt (Square.ofIdx i) = some p) (hc : p.color = b.turn) :
    FromSq i ((kindMoveset p (Square.ofIdx i) b).map absMove) (specPiece (abs b) i (absPiece p)) := by
  rcases p with ⟨pk, c⟩
  cases pk
  · exact pawn_perm b hw i hi c hc
  · exact king_perm b hw i hi c hp hc
  all_goals
    apply simple_kind b hw i hi _ hp
    · rw [kindMoveset_eq, ofIdx_idx]; rfl
    · rfl

theorem absMove_fill (b : Board) (m : Ply) : absMove (BoardGen.fill b m) = absMove m := by
  unfold BoardGen.fill; split <;> exact absMove_captured m _

/-- pseudo-legal exactness needs only the representation invariant -/
theorem pseudo_exact_wf (b : Board) (hw : WF b) :
    (b.allMoves.map absMove).Perm (Rules.pseudoMoves (abs b)) ∧ (b.allMoves.map absMove).Nodup := by
  rw [pseudoMoves_eq, BoardGen.allMoves_eq, List.map_flatMap]
  refine FromSq.flatMap List.nodup_range fun i hi => ?_
  rw [List.mem_range] at hi
  rw [abs_at b i hi]
  cases hp : b.pieceAt (Square.ofIdx i) with
  | none => exact FromSq.nil i
  | some p =>
    simp only [Option.map_some]
    have hcol : ((absPiece p).color != (abs b).turn) = (b.turn != p.color) := by
      show (absColor p.color != absColor b.turn) = _
      unfold bne; rw [absColor_beq]
      cases p.color <;> cases b.turn <;> rfl
    rw [hcol]
    by_cases hc : p.color = b.turn
    · have hne : (b.turn != p.color) = false := by rw [hc]; simp
      rw [hne]
      simp only [Bool.false_eq_true, if_false]
      rw [List.map_map, (funext (absMove_fill b) : absMove ∘ BoardGen.fill b = absMove)]
      exact kind_perm b hw i hi p hp hc
    · have hne : (b.turn != p.color) = true := by
        simp only [bne_iff_ne, ne_eq]; exact fun e => hc e.symm
      rw [hne]
      exact FromSq.nil i

end RCE.Proofs.MoveGen
