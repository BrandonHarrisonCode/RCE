import RCE.Proofs.MoveGenAttacks
import RCE.Proofs.BoardGen
/-! C01, part 2: the spec's attack lists are duplicate-free and in range; the moves of a knight, bishop,
    rook, queen (and the non-castling moves of a king) are exactly the spec's. -/
namespace RCE.Proofs.MoveGen
open RCE RCE.Proofs.BoardWF RCE.Proofs.Abs RCE.Proofs.BoardPBB RCE.Proofs.BoardBits RCE.Proofs.Sliders
open RCE.Proofs.MoveGenList

/-- different offsets lead to different squares, so a leaper's attack list has no duplicates -/
theorem nodup_filterMap_step (sq : Nat) (offs : List (Int × Int)) (h : offs.Nodup) :
    (offs.filterMap fun d => Rules.step sq d.1 d.2).Nodup :=
  List.pairwise_filterMap.mpr <| h.imp fun hne t ht t' ht' e => by
    subst e
    obtain ⟨a1, a2, -⟩ := step_some ht
    obtain ⟨b1, b2, -⟩ := step_some ht'
    exact hne (Prod.ext (by omega) (by omega))

/-- the `k`-th square of a slide is `k` steps from the origin -/
theorem mem_slideOcc (occ : Nat → Bool) (d : Int × Int) (n : Nat) : ∀ sq t, t ∈ Rules.slideOcc occ sq d n →
    t < 64 ∧ ∃ k : Nat, 1 ≤ k ∧ ((t % 8 : Nat) : Int) = (sq % 8 : Nat) + k * d.1 ∧
      ((t / 8 : Nat) : Int) = (sq / 8 : Nat) + k * d.2 := by
  induction n with
  | zero => intro sq t h; cases h
  | succ n ih =>
    intro sq t h
    unfold Rules.slideOcc at h
    cases hs : Rules.step sq d.1 d.2 with
    | none => rw [hs] at h; cases h
    | some u =>
      rw [hs] at h
      obtain ⟨a1, a2, a3⟩ := step_some hs
      have here : u < 64 ∧ ∃ k : Nat, 1 ≤ k ∧ ((u % 8 : Nat) : Int) = (sq % 8 : Nat) + k * d.1 ∧
          ((u / 8 : Nat) : Int) = (sq / 8 : Nat) + k * d.2 := ⟨a3, 1, Nat.le_refl 1, by omega, by omega⟩
      simp only at h
      split at h
      · rw [List.mem_singleton.mp h]; exact here
      · rcases List.mem_cons.mp h with e | h'
        · rw [e]; exact here
        · obtain ⟨lt, k, hk, b1, b2⟩ := ih u t h'
          refine ⟨lt, k + 1, by omega, ?_, ?_⟩
          · rw [b1, a1, Int.natCast_add, Int.add_mul]; omega
          · rw [b2, a2, Int.natCast_add, Int.add_mul]; omega

theorem nodup_slideOcc (occ : Nat → Bool) (d : Int × Int) (hd : d ≠ (0, 0)) (n : Nat) :
    ∀ sq, (Rules.slideOcc occ sq d n).Nodup := by
  induction n with
  | zero => intro sq; exact List.nodup_nil
  | succ n ih =>
    intro sq
    unfold Rules.slideOcc
    cases hs : Rules.step sq d.1 d.2 with
    | none => exact List.nodup_nil
    | some u =>
      simp only
      split
      · exact List.nodup_cons.mpr ⟨List.not_mem_nil, List.nodup_nil⟩
      · rw [List.nodup_cons]
        refine ⟨fun hm => hd ?_, ih u⟩
        obtain ⟨-, k, hk, b1, b2⟩ := mem_slideOcc occ d n u u hm
        have h1 : (k : Int) * d.1 = 0 := by omega
        have h2 : (k : Int) * d.2 = 0 := by omega
        have hk' : (k : Int) ≠ 0 := by omega
        exact Prod.ext ((Int.mul_eq_zero.mp h1).resolve_left hk') ((Int.mul_eq_zero.mp h2).resolve_left hk')

/-- the eight directions: components in {-1, 0, 1}, not both 0 -/
def IsDir (d : Int × Int) : Prop := (d.1 = -1 ∨ d.1 = 0 ∨ d.1 = 1) ∧ (d.2 = -1 ∨ d.2 = 0 ∨ d.2 = 1) ∧ d ≠ (0, 0)

instance (d : Int × Int) : Decidable (IsDir d) := by unfold IsDir; infer_instance

/-- equal multiples, by positive factors, of two numbers in {-1, 0, 1}: the numbers are equal -/
theorem unit_eq (k k' : Nat) (hk : 1 ≤ k) (hk' : 1 ≤ k') (x y : Int) (hx : x = -1 ∨ x = 0 ∨ x = 1)
    (hy : y = -1 ∨ y = 0 ∨ y = 1) (h : (k : Int) * x = k' * y) : x = y := by
  rcases hx with rfl | rfl | rfl <;> rcases hy with rfl | rfl | rfl <;> omega

theorem slideOcc_disjoint (occ : Nat → Bool) (sq n : Nat) (d d' : Int × Int) (hd : IsDir d) (hd' : IsDir d') (hne : d ≠ d')
    (t : Nat) (h : t ∈ Rules.slideOcc occ sq d n) (h' : t ∈ Rules.slideOcc occ sq d' n) : False := by
  obtain ⟨-, k, hk, a1, a2⟩ := mem_slideOcc occ d n sq t h
  obtain ⟨-, k', hk', b1, b2⟩ := mem_slideOcc occ d' n sq t h'
  exact hne (Prod.ext (unit_eq k k' hk hk' _ _ hd.1 hd'.1 (by omega)) (unit_eq k k' hk hk' _ _ hd.2.1 hd'.2.1 (by omega)))

theorem slider_nodup (occ : Nat → Bool) (dirs : List (Int × Int)) (hn : dirs.Nodup) (hd : ∀ d ∈ dirs, IsDir d)
    (sq : Nat) : (dirs.flatMap fun d => Rules.slideOcc occ sq d 7).Nodup :=
  nodup_flatMap _ _ hn (fun d h => nodup_slideOcc occ d (hd d h).2.2 7 sq)
    fun d h d' h' hne x hx _ hy e => slideOcc_disjoint occ sq 7 d d' (hd d h) (hd d' h') hne x hx (e ▸ hy)

theorem attacksFrom_nodup (p : Rules.Pos) (sq : Nat) (pc : Rules.Piece) : (Rules.attacksFrom p sq pc).Nodup := by
  unfold Rules.attacksFrom
  rcases pc with ⟨c, k⟩
  cases k <;> simp only
  · exact nodup_filterMap_step sq _ (by cases c <;> decide)
  · exact nodup_filterMap_step sq _ (by decide)
  · exact slider_nodup _ _ (by decide) (by decide) sq
  · exact slider_nodup _ _ (by decide) (by decide) sq
  · exact slider_nodup _ _ (by decide) (by decide) sq
  · exact nodup_filterMap_step sq _ (by decide)

theorem attacksFrom_lt (p : Rules.Pos) (sq : Nat) (pc : Rules.Piece) (t : Nat)
    (h : t ∈ Rules.attacksFrom p sq pc) : t < 64 := by
  have leaper : ∀ offs : List (Int × Int), (t ∈ offs.filterMap fun d => Rules.step sq d.1 d.2) → t < 64 := fun _ h => by
    obtain ⟨d, _, hd⟩ := List.mem_filterMap.mp h
    exact (step_some hd).2.2
  have slider : ∀ dirs : List (Int × Int), (t ∈ dirs.flatMap fun d => Rules.slide p sq d 7) → t < 64 := fun _ h => by
    obtain ⟨d, _, hd⟩ := List.mem_flatMap.mp h
    exact (mem_slideOcc _ _ _ _ _ hd).1
  rcases pc with ⟨c, k⟩
  cases k
  · exact leaper _ h
  · exact leaper _ h
  · exact slider _ h
  · exact slider _ h
  · exact slider _ h
  · exact leaper _ h

/-- the range / identity filter at the end of `Kind::get_moveset` -/
def rangeOK (m : Ply) : Bool :=
  m.start.rank < 8 && m.start.file < 8 && m.dest.rank < 8 && m.dest.file < 8 && m.start != m.dest

/-- `IR` as a `Bool`, which the filters below test -/
def Pawn.inR (s : Square) : Bool := decide (s.rank < 8) && decide (s.file < 8)

theorem Pawn.inR_iff (s : Square) : Pawn.inR s = true ↔ IR s := by
  unfold Pawn.inR IR; simp

theorem rangeOK_eq (i : Nat) (hi : i < 64) (m : Ply) (hs : m.start = Square.ofIdx i) (hne : m.start ≠ m.dest) :
    rangeOK m = Pawn.inR m.dest := by
  have hir := ofIdx_IR i hi
  have hne' : (m.start != m.dest) = true := bne_iff_ne.mpr hne
  unfold rangeOK Pawn.inR
  rw [hne', hs, decide_eq_true hir.1, decide_eq_true hir.2]
  simp

theorem kindMoveset_eq (k : Kind) (sq : Square) (b : Board) :
    kindMoveset k sq b = (match k.pk with
      | .pawn => pawnMoveset sq b k.color
      | .king => kingMoveset sq b k.color
      | .queen => simpleMoveset (queenAttacks sq.idx b.bbs.all) sq b k
      | .rook => simpleMoveset (rookAttacks sq.idx b.bbs.all) sq b k
      | .bishop => simpleMoveset (bishopAttacks sq.idx b.bbs.all) sq b k
      | .knight => simpleMoveset (knightAttacks sq.idx) sq b k).filter rangeOK := rfl

/-- the spec's destination filter: not a piece of my own colour -/
def notOwn (p : Rules.Pos) (c : Rules.Color) (t : Nat) : Bool :=
  match p.at t with | some q => q.color != c | none => true

theorem notOwn_abs (b : Board) (hw : PBB.WF b.bbs) (c : Color) (t : Nat) (ht : t < 64) :
    notOwn (abs b) (absColor c) t = !testBit (sameColorBB b c) t := by
  have h := sameColor_bit b hw c (Square.ofIdx t) (ofIdx_IR t ht)
  rw [ofIdx_idx] at h
  rw [notOwn, h, abs_at b t ht]
  cases b.pieceAt (Square.ofIdx t) with
  | none => rfl
  | some k =>
    show (absColor k.color != absColor c) = !(k.color == c)
    unfold bne
    rw [absColor_beq]

/-- the moves of a knight, bishop, rook or queen (the steps of a king) on square `i`, as the rules see them: one for each
    bit of the attack set that is not on a piece of the mover's colour; the range filter removes none -/
theorem simple_abs (b : Board) (hw : WF b) (i : Nat) (hi : i < 64) (p : Kind)
    (hp : b.pieceAt (Square.ofIdx i) = some p) (att : BB) :
    ((simpleMoveset att (Square.ofIdx i) b p).filter rangeOK).map absMove =
      (bitIndices (att &&& ~~~sameColorBB b p.color)).map fun t => (⟨i, t, none⟩ : Rules.Move) := by
  rw [List.filter_eq_self.mpr]
  · unfold simpleMoveset
    rw [List.map_map]
    apply List.map_congr_left
    intro s _
    show (⟨(Square.ofIdx i).idx, (Square.ofIdx s).idx, none⟩ : Rules.Move) = _
    rw [ofIdx_idx, ofIdx_idx]
  · intro m hm
    obtain ⟨s, hs64, -, hown, rfl⟩ := BoardGen.mem_simpleMoveset hm
    rw [rangeOK_eq i hi _ rfl fun e => ?_]
    · exact (Pawn.inR_iff _).mpr (ofIdx_IR s hs64)
    · -- the mover's own square is not a destination
      have := (BoardGen.sameColor_iff b hw.bbs _ (ofIdx_IR i hi) _).mpr ⟨p, hp, rfl⟩
      rw [ofIdx_idx, ofIdx_inj e, hown] at this; cases this

/-- the engine's moves `L` from square `i` against the spec's `S`: the same moves, each once, all of them starting on `i` -/
structure FromSq (i : Nat) (L S : List Rules.Move) : Prop where
  perm : L.Perm S
  nodup : L.Nodup
  src : ∀ mv ∈ L, mv.src = i

theorem FromSq.nil (i : Nat) : FromSq i [] [] := ⟨.refl _, .nil, nofun⟩

/-- square by square: lists that start on different squares do not meet -/
theorem FromSq.flatMap {l : List Nat} (hl : l.Nodup) {f g : Nat → List Rules.Move} (h : ∀ i ∈ l, FromSq i (f i) (g i)) :
    (l.flatMap f).Perm (l.flatMap g) ∧ (l.flatMap f).Nodup :=
  ⟨perm_flatMap_congr _ _ _ fun i hi => (h i hi).perm,
    nodup_flatMap _ _ hl (fun i hi => (h i hi).nodup) fun a ha a' ha' hne x hx y hy e =>
      hne (by rw [← (h a ha).src x hx, ← (h a' ha').src y hy, e])⟩

theorem simple_perm (b : Board) (hw : WF b) (i : Nat) (hi : i < 64) (p : Kind)
    (hp : b.pieceAt (Square.ofIdx i) = some p) (att : BB)
    (hex : Exact att (Rules.attacksFrom (abs b) i (absPiece p))) :
    FromSq i (((simpleMoveset att (Square.ofIdx i) b p).filter rangeOK).map absMove)
      (((Rules.attacksFrom (abs b) i (absPiece p)).filter (notOwn (abs b) (absPiece p).color)).map
        fun t => (⟨i, t, none⟩ : Rules.Move)) ∧
    (∀ mv ∈ ((simpleMoveset att (Square.ofIdx i) b p).filter rangeOK).map absMove, testBit att mv.dst = true) := by
  rw [simple_abs b hw i hi p hp att]
  have hlt : ∀ t ∈ Rules.attacksFrom (abs b) i (absPiece p), t < 64 := fun t h => attacksFrom_lt _ _ _ _ h
  refine ⟨⟨?_, ?_, ?_⟩, ?_⟩
  · have hperm := bitIndices_perm att (~~~sameColorBB b p.color) _ hex (attacksFrom_nodup _ i _) hlt
    rw [List.filter_congr fun t ht => by rw [testBit_not, ← notOwn_abs b hw.bbs p.color t (hlt t ht)]] at hperm
    exact hperm.map _
  · apply nodup_map_of_inj _ _ (nodup_bitIndices _)
    intro a _ a' _ e
    injection e
  · intro mv hmv
    obtain ⟨s, -, rfl⟩ := List.mem_map.mp hmv
    rfl
  · intro mv hmv
    obtain ⟨s, hs, rfl⟩ := List.mem_map.mp hmv
    have hsb := ((mem_bitIndices _ _).mp hs).2
    rw [testBit_and, Bool.and_eq_true] at hsb
    exact hsb.1

end RCE.Proofs.MoveGen
