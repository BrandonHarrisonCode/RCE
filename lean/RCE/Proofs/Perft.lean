import RCE.Props.C01
import RCE.Props.C02
import RCE.Props.C03
/-! Perft exactness and the history-level readings of C03.  Perft: `legal_exact` (C01) makes the two move lists of a
    position permutations of each other, `make_refines` / `make_legal` (C03) carry the induction hypothesis across a move,
    and a `foldl` sum does not see the order.  Castling rights and the en-passant file are read off `Rules.apply`, one
    step first, then along a game; a theorem about `Rules.Pos` is at the rules level, one about `Board` at the model
    level. -/
namespace RCE

/-- `perft`: number of leaves of the legal-move tree of the given depth -/
def Board.perft (b : Board) : Nat → Nat
  | 0 => 1
  | d+1 => (b.legalMovesPure).foldl (fun n m => n + (b.makeMove m).perft d) 0

end RCE

namespace RCE.Proofs.Perft
open RCE RCE.Proofs.BoardWF RCE.Proofs.Abs RCE.Props.C03

theorem foldl_add_congr {α : Type} (l : List α) (f g : α → Nat) (h : ∀ x ∈ l, f x = g x) (init : Nat) :
    l.foldl (fun n x => n + f x) init = l.foldl (fun n x => n + g x) init := by
  induction l generalizing init with
  | nil => rfl
  | cons a l ih =>
    simp only [List.foldl_cons]
    rw [h a (List.mem_cons_self ..)]
    exact ih (fun x hx => h x (List.mem_cons_of_mem _ hx)) _

theorem foldl_add_perm {α : Type} {l₁ l₂ : List α} (p : l₁.Perm l₂) (f : α → Nat) (init : Nat) :
    l₁.foldl (fun n x => n + f x) init = l₂.foldl (fun n x => n + f x) init :=
  p.foldl_eq' (fun x _ y _ z => Nat.add_right_comm z (f x) (f y)) init

theorem perft_zero (b : Board) : b.perft 0 = 1 := rfl

theorem perft_succ (b : Board) (d : Nat) :
    b.perft (d+1) = (b.legalMovesPure).foldl (fun n m => n + (b.makeMove m).perft d) 0 := rfl

theorem perft_exact (b : Board) (hl : Legal b) (d : Nat) : b.perft d = Rules.perft (abs b) d := by
  induction d generalizing b with
  | zero => rfl
  | succ d ih =>
    have hperm : (b.legalMovesPure.map absMove).Perm (Rules.legalMoves (abs b)) := by
      have h := (RCE.Props.C01.legal_exact b hl).1
      rw [(RCE.Props.C02.legalMoves_pure b hl.wf).2] at h
      exact h
    have hsummand : ∀ m ∈ b.legalMovesPure,
        (b.makeMove m).perft d = Rules.perft (Rules.apply (abs b) (absMove m)) d := by
      intro m hm
      rw [ih (b.makeMove m) (make_legal b m hl hm), make_refines b m hl (legal_is_generated b m hm)]
    rw [perft_succ, foldl_add_congr _ _ _ hsummand 0]
    show _ = (Rules.legalMoves (abs b)).foldl (fun n m => n + Rules.perft (Rules.apply (abs b) m) d) 0
    rw [← foldl_add_perm hperm (fun m => Rules.perft (Rules.apply (abs b) m) d) 0, List.foldl_map]

/-- non-vacuity: the start position, every depth -/
theorem perft_start (d : Nat) : Board.start.perft d = Rules.perft (abs Board.start) d :=
  perft_exact _ start_legal d

/-- rules level, one step: a right that is on afterwards was on before -/
theorem rights_never_regained_step (p : Rules.Pos) (m : Rules.Move) :
    ((Rules.apply p m).wk = true → p.wk = true) ∧ ((Rules.apply p m).wq = true → p.wq = true) ∧
    ((Rules.apply p m).bk = true → p.bk = true) ∧ ((Rules.apply p m).bq = true → p.bq = true) := by
  unfold Rules.apply
  split
  · exact ⟨id, id, id, id⟩
  · simp only [Bool.and_eq_true]
    exact ⟨fun h => h.1.1, fun h => h.1.1, fun h => h.1.1, fun h => h.1.1⟩

/-- rules level, any sequence of moves -/
theorem rights_never_regained_spec (p : Rules.Pos) (ms : List Rules.Move) :
    ((ms.foldl Rules.apply p).wk = true → p.wk = true) ∧ ((ms.foldl Rules.apply p).wq = true → p.wq = true) ∧
    ((ms.foldl Rules.apply p).bk = true → p.bk = true) ∧ ((ms.foldl Rules.apply p).bq = true → p.bq = true) := by
  induction ms generalizing p with
  | nil => exact ⟨id, id, id, id⟩
  | cons m ms ih =>
    have h1 := rights_never_regained_step p m
    have h2 := ih (Rules.apply p m)
    simp only [List.foldl_cons]
    exact ⟨fun h => h1.1 (h2.1 h), fun h => h1.2.1 (h2.2.1 h),
           fun h => h1.2.2.1 (h2.2.2.1 h), fun h => h1.2.2.2 (h2.2.2.2 h)⟩

/-- model level: along any legal game, of any length -/
theorem rights_never_regained (b : Board) (ms : List Ply) (hl : Legal b) (hs : LegalSeq b ms) :
    let p := abs b
    let q := abs (ms.foldl Board.makeMove b)
    (q.wk = true → p.wk = true) ∧ (q.wq = true → p.wq = true) ∧
    (q.bk = true → p.bk = true) ∧ (q.bq = true → p.bq = true) := by
  exact BoardMake.rights_mono b ms

/-! The en-passant file is present exactly after a pawn double step.

`Rules.apply p m` is `p` itself when there is no piece on `m.src` (a move from an empty square is not a
move), so in that case `(Rules.apply p m).ep = p.ep` may well be `some f` left over from before.  The
statement `(Rules.apply p m).ep = some f → ∃ pc, p.at m.src = some pc ∧ …` is therefore false without a
hypothesis; two true forms are given: `ep_only_after_double_push'` (no hypothesis, the strongest: the empty
source square is the only other case, and then nothing changed) and `ep_only_after_double_push` (with the
hypothesis `p.at m.src ≠ none`, which every pseudo-legal and so every legal move satisfies). -/

/-- rules level, no hypothesis: either there was no piece to move (and the position is unchanged), or a pawn made a double
    step from that file.  (The prime marks a variant here, not the twin of a `Props` theorem.) -/
theorem ep_only_after_double_push' (p : Rules.Pos) (m : Rules.Move) (f : Nat)
    (h : (Rules.apply p m).ep = some f) :
    (p.at m.src = none ∧ Rules.apply p m = p ∧ p.ep = some f) ∨
    ∃ pc, p.at m.src = some pc ∧ pc.kind = .pawn ∧ (m.dst = m.src + 16 ∨ m.dst + 16 = m.src) ∧ f = m.src % 8 := by
  unfold Rules.apply at h ⊢
  split at h
  · next hn => left; simp only [hn]; exact ⟨trivial, trivial, h⟩
  · next pc hs =>
    right
    refine ⟨pc, hs, ?_⟩
    simp only [] at h
    split at h
    · next hc =>
      simp only [Bool.and_eq_true, Bool.or_eq_true, beq_iff_eq] at hc
      simp only [Option.some.injEq] at h
      exact ⟨hc.1, hc.2, h.symm⟩
    · exact absurd h (by simp)

/-- rules level, with a piece on the source square: the file is set only by a pawn double step, and is that pawn's file -/
theorem ep_only_after_double_push (p : Rules.Pos) (m : Rules.Move) (f : Nat) (hsrc : p.at m.src ≠ none)
    (h : (Rules.apply p m).ep = some f) :
    ∃ pc, p.at m.src = some pc ∧ pc.kind = .pawn ∧ (m.dst = m.src + 16 ∨ m.dst + 16 = m.src) ∧ f = m.src % 8 := by
  rcases ep_only_after_double_push' p m f h with h | h
  · exact absurd h.1 hsrc
  · exact h

/-- rules level, the converse: a pawn double step sets the file to the pawn's file -/
theorem ep_after_double_push (p : Rules.Pos) (m : Rules.Move) (pc : Rules.Piece)
    (hs : p.at m.src = some pc) (hk : pc.kind = .pawn) (hd : m.dst = m.src + 16 ∨ m.dst + 16 = m.src) :
    (Rules.apply p m).ep = some (m.src % 8) := by
  unfold Rules.apply
  simp only [hs, hk]
  rw [if_pos]
  simp only [Bool.and_eq_true, Bool.or_eq_true, beq_iff_eq]
  exact ⟨trivial, hd⟩

/-- rules level: any other move of a piece clears the file -/
theorem ep_none_otherwise (p : Rules.Pos) (m : Rules.Move) (pc : Rules.Piece)
    (hs : p.at m.src = some pc) (hn : ¬ (pc.kind = .pawn ∧ (m.dst = m.src + 16 ∨ m.dst + 16 = m.src))) :
    (Rules.apply p m).ep = none := by
  cases h : (Rules.apply p m).ep with
  | none => rfl
  | some f =>
    obtain ⟨pc', hs', hk, hd, _⟩ := ep_only_after_double_push p m f (by rw [hs]; simp) h
    rw [hs] at hs'
    cases hs'
    exact absurd ⟨hk, hd⟩ hn

/-- rules level: "present exactly on the ply after a double pawn push" -/
theorem ep_iff_double_push (p : Rules.Pos) (m : Rules.Move) (f : Nat) (hsrc : p.at m.src ≠ none) :
    (Rules.apply p m).ep = some f ↔
      ∃ pc, p.at m.src = some pc ∧ pc.kind = .pawn ∧ (m.dst = m.src + 16 ∨ m.dst + 16 = m.src) ∧ f = m.src % 8 := by
  constructor
  · exact ep_only_after_double_push p m f hsrc
  · rintro ⟨pc, hs, hk, hd, rfl⟩
    exact ep_after_double_push p m pc hs hk hd

end RCE.Proofs.Perft

#print axioms RCE.Proofs.Perft.perft_exact
#print axioms RCE.Proofs.Perft.perft_start
#print axioms RCE.Proofs.Perft.rights_never_regained_step
#print axioms RCE.Proofs.Perft.rights_never_regained_spec
#print axioms RCE.Proofs.Perft.rights_never_regained
#print axioms RCE.Proofs.Perft.ep_only_after_double_push'
#print axioms RCE.Proofs.Perft.ep_only_after_double_push
#print axioms RCE.Proofs.Perft.ep_after_double_push
#print axioms RCE.Proofs.Perft.ep_none_otherwise
#print axioms RCE.Proofs.Perft.ep_iff_double_push
