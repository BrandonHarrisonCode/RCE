import RCE.Model.Eval
import RCE.Proofs.BoardBits
/-! `popcount (bswap x) = popcount x`: `bswap` permutes the 64 bit positions
    (`i ↦ 8 * (7 - i / 8) + i % 8`), and `popcount` is the sum of the 64 indicator bits. -/
namespace RCE.Proofs.PopcountBswap
open RCE RCE.Proofs.BoardBits

theorem ff_getLsbD (j : Nat) : (255#64).getLsbD j = decide (j < 8) := by
  have : (255 : Nat) = 2 ^ 8 - 1 := by decide
  rw [BitVec.getLsbD_ofNat, this, Nat.testBit_two_pow_sub_one]
  by_cases h : j < 8 <;> simp [h]; omega

/-- after `n` steps of `bswap` the bytes `7, …, 8 - n` of the result are in place -/
theorem bswap_fold (x : BB) (i n : Nat) (h : i < 64) (hn : n ≤ 8) :
    ((List.range n).foldl (fun acc k => acc ||| (((x >>> (8 * k).toUInt64) &&& 0xFF) <<< (8 * (7 - k)).toUInt64))
      0).toBitVec.getLsbD i = (decide (7 - i / 8 < n) && x.toBitVec.getLsbD (8 * (7 - i / 8) + i % 8)) := by
  induction n with
  | zero => simp
  | succ n ih =>
    simp only [List.range_succ, List.foldl_append, List.foldl_cons, List.foldl_nil, UInt64.toBitVec_or,
      UInt64.toBitVec_shiftLeft, UInt64.toBitVec_and, UInt64.toBitVec_shiftRight, toBV_idx, BitVec.shiftLeft_eq',
      BitVec.ushiftRight_eq', shiftAmt (8 * n) (by omega), shiftAmt (8 * (7 - n)) (by omega), BitVec.getLsbD_or,
      BitVec.getLsbD_shiftLeft, BitVec.getLsbD_and, BitVec.getLsbD_ushiftRight, ih (by omega)]
    by_cases e : 7 - i / 8 = n
    · have e1 : 8 * n + (i - 8 * (7 - n)) = 8 * (7 - i / 8) + i % 8 := by omega
      simp [ff_getLsbD, e1, h, e, show ¬ i < 8 * (7 - n) by omega, show i - 8 * (7 - n) < 8 by omega]
    · have e2 : 7 - i / 8 < n + 1 ↔ 7 - i / 8 < n := by omega
      rcases (by omega : i < 8 * (7 - n) ∨ ¬ i - 8 * (7 - n) < 8) with l | l <;> simp [ff_getLsbD, l, e2]

theorem testBit_bswap (x : BB) (i : Nat) (h : i < 64) :
    testBit (bswap x) i = testBit x (8 * (7 - i / 8) + i % 8) := by
  rw [testBit_eq _ _ h, testBit_eq _ _ (by omega)]
  exact (bswap_fold x i 8 h (Nat.le_refl _)).trans (by simp [show 7 - i / 8 < 8 by omega])

def ind (x : BB) (i : Nat) : Nat := if testBit x i then 1 else 0

theorem popcountAux_acc (x : BB) (n acc : Nat) : popcountAux x n acc = acc + popcountAux x n 0 := by
  induction n generalizing acc with
  | zero => simp [popcountAux]
  | succ n ih =>
    simp only [popcountAux]
    rw [ih, ih (if testBit x n then 0 + 1 else 0)]
    split <;> simp <;> omega

def sumInd (x : BB) : Nat → Nat
  | 0 => 0
  | n+1 => ind x n + sumInd x n

theorem popcountAux_eq_sumInd (x : BB) (n : Nat) : popcountAux x n 0 = sumInd x n := by
  induction n with
  | zero => rfl
  | succ n ih =>
    simp only [popcountAux, sumInd, ind]
    rw [popcountAux_acc, ih]

theorem ind_bswap (x : BB) (i : Nat) (h : i < 64) : ind (bswap x) i = ind x (8 * (7 - i / 8) + i % 8) := by
  simp only [ind, testBit_bswap x i h]

theorem popcount_bswap (x : BB) : popcount (bswap x) = popcount x := by
  unfold popcount
  simp only [popcountAux_eq_sumInd, sumInd]
  simp (disch := decide) only [ind_bswap]
  simp only [Nat.reduceMul, Nat.reduceDiv, Nat.reduceMod, Nat.reduceSub, Nat.reduceAdd]
  omega

end RCE.Proofs.PopcountBswap
