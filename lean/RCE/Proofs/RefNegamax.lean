import RCE.Proofs.SearchNegamaxBase
/-! The executable reference with textbook fail-soft alpha-beta pruning (`refNegamax`, `refQuiesce`, `refRootValue`,
    `refRootMoveValue` of `Spec/Negamax.lean`) computes the plain minimax value: what its move loop returns satisfies
    `Soft`, so a node's result satisfies the contract `Good` of C11; sorting by the capture score only permutes the
    moves; and the root window `(−INF, INF)` strictly contains every value, so the root result is exact. -/
namespace RCE.Proofs.RefNegamax
open RCE.Search RCE.Proofs.SearchDefs RCE.Proofs.SearchUnfold RCE.Proofs.SearchRules RCE.Proofs.SearchNegamax

variable {P M : Type}

theorem insertByScore_perm (G : Game P M) (m : M) : ∀ l : List M, List.Perm (insertByScore G m l) (m :: l)
  | [] => by simp [insertByScore]
  | x :: xs => by
    simp only [insertByScore]
    split
    · exact List.Perm.refl _
    · exact ((insertByScore_perm G m xs).cons x).trans (List.Perm.swap m x xs)

theorem sortByScore_perm (G : Game P M) : ∀ l : List M, List.Perm (sortByScore G l) l
  | [] => by simp [sortByScore]
  | x :: xs => by
    have ih := sortByScore_perm G xs
    have h : sortByScore G (x :: xs) = insertByScore G x (sortByScore G xs) := rfl
    rw [h]
    exact (insertByScore_perm G x _).trans (ih.cons x)

theorem maxList_sort (G : Game P M) (f : M → Int) (l : List M) (a : Int) :
    maxList a ((sortByScore G l).map f) = maxList a (l.map f) :=
  maxList_perm ((sortByScore_perm G l).map f) a

/-- What the fail-soft loop's result `r` says about the maximum `T` of `best` and the values of its moves, for the window
    `(a, b)`: it is at least `best`; at or above `b` it is a lower bound; below `b` it is an upper bound if it does not
    exceed `max a best`, and exact if it does. -/
def Soft (best a b T r : Int) : Prop :=
  best ≤ r ∧ (b ≤ r → r ≤ T) ∧ (r < b → r ≤ max a best → T ≤ r) ∧ (r < b → max a best < r → r = T)

/-- what the loop's result says as a node's result; the loop's window may have been opened at `a` and raised to `best`
    before the loop (`refQuiesce`) -/
theorem Soft.good {best a a' b T r : Int} (h : Soft best a' b T r) (hT : best ≤ T) (ha : max a' best = max a best) :
    Good T a b r := by
  unfold Soft at h
  unfold Good Bnd
  omega

/-- A move of the loop that does not cut (`v` its score, `x` its value, `S` the maximum over the moves still to come):
    from the claim about the rest of the loop, started with the best value `max best v` and the window raised to it, to
    the claim about the loop from this move on.  Every step is shown only the facts it needs, since `omega` is slow on
    a context with many `max`. -/
theorem refKids_step {best a b v x S r : Int} (hg : Good x a b v) (hcut : ¬ max best v ≥ b)
    (h : Soft (max best v) (max a (max best v)) b (max v S) r) : Soft best a b (max x S) r := by
  obtain ⟨h1, h2, h3, h4⟩ := h
  obtain ⟨hv, hbr, hvr⟩ : v < b ∧ best ≤ r ∧ v ≤ r := by clear hg h2 h3 h4; omega
  obtain ⟨hx, hxv⟩ := hg.below hv
  clear hg hcut h1
  refine ⟨hbr, fun hb => ?_, fun hb hr => ?_, fun hb hr => ?_⟩
  · have := h2 hb
    clear h2 h3 h4 hxv hbr hvr
    omega
  · have := h3 hb (by clear h2 h3 h4 hxv hx hv hbr hvr; omega)
    clear h2 h3 h4 hxv hr hbr hv hb
    omega
  · by_cases hA : r ≤ max (max a (max best v)) (max best v)
    · have h := h3 hb hA
      clear h2 h3 h4 hx hv hb
      obtain ⟨rfl, hav⟩ : r = v ∧ a < v := by clear h hxv; omega
      have := hxv hav
      clear hxv hA hr hbr hav hvr
      omega
    · have h := h4 hb (by clear h2 h3 h4 hxv hx hv hbr hvr hr; omega)
      clear h2 h3 h4 hb hv hbr hr
      omega

theorem refKids_spec (G : Game P M) (p : P) (rec : P → Int → Int → Int) (V : P → Int) :
    ∀ (ms : List M) (best a b : Int), a < b →
      (∀ m ∈ ms, ∀ x y : Int, x < y → Good (V (G.play p m)) x y (rec (G.play p m) x y)) →
      Soft best a b (maxList best (ms.map fun m => - V (G.play p m))) (refKids rec G p ms best a b)
  | [], best, a, b, _, _ => by
    simp only [Soft, refKids, List.map_nil, maxList_nil]
    omega
  | m :: ms, best, a, b, hab, hrec => by
    have hg := (hrec m List.mem_cons_self (-b) (-a) (by omega)).flip
    have e : ∀ (x : Int) (l : List Int), maxList (max best x) l = max x (maxList best l) := fun x l => by
      rw [Int.max_comm, maxList_max]
    simp only [refKids, List.map_cons, maxList_cons]
    rw [e]
    have hge := maxList_ge (ms.map fun m => - V (G.play p m)) best
    split
    · rename_i hcut
      have hx := hg.1
      clear hg
      unfold Soft
      omega
    · rename_i hcut
      have ih := refKids_spec G p rec V ms (max best (- rec (G.play p m) (-b) (-a)))
        (max a (max best (- rec (G.play p m) (-b) (-a)))) b (by omega) (fun m' hm' => hrec m' (List.mem_cons_of_mem _ hm'))
      rw [e] at ih
      exact refKids_step hg hcut ih

/-- the loop over a non-empty list of moves whose values are above the mate band, started below every value: its result
    speaks for the maximum as a node's result does (`Good`) -/
theorem refKids_good (G : Game P M) (p : P) (rec : P → Int → Int → Int) (V : P → Int) (ms : List M) (a b : Int)
    (hab : a < b) (hne : ms ≠ [])
    (hrec : ∀ m ∈ ms, ∀ x y : Int, x < y → Good (V (G.play p m)) x y (rec (G.play p m) x y))
    (hlo : ∀ m ∈ ms, -32767 ≤ - V (G.play p m)) :
    Good (maxList MINS (ms.map fun m => - V (G.play p m))) a b (refKids rec G p ms (MINS - 1) a b) := by
  have hk := refKids_spec G p rec V ms (MINS - 1) a b hab hrec
  obtain ⟨m0, hm0⟩ := List.exists_mem_of_ne_nil _ hne
  have hlow := maxList_ge_mem (ms.map fun m => - V (G.play p m)) (MINS - 1) _ (List.mem_map_of_mem hm0)
  have h0 := hlo m0 hm0
  have hv : maxList MINS (ms.map fun m => - V (G.play p m)) =
      max MINS (maxList (MINS - 1) (ms.map fun m => - V (G.play p m))) := by
    rw [← maxList_max]; congr 1
  rw [hv, Int.max_eq_right (by unfold MINS at *; omega)]
  exact hk.good (maxList_ge _ _) rfl

theorem refQuiesce_fs (G : Game P M) : ∀ (fuel : Nat) (p : P) (ply : Nat) (a b : Int), a < b →
    Good (nmQuiesce G fuel p ply) a b (refQuiesce G fuel p ply a b)
  | 0, p, ply, a, b, _ => by simp only [refQuiesce, nmQuiesce]; exact good_self _ _ _
  | fuel + 1, p, ply, a, b, hab => by
    simp only [refQuiesce, nmQuiesce]
    split
    · exact good_self _ _ _
    · have hge := maxList_ge (((legalMovesOf G p).filter G.isCapture).map
        fun m => - nmQuiesce G fuel (G.play p m) (ply + 1)) (G.eval p)
      split
      · rename_i hs
        unfold Good Bnd
        generalize maxList _ _ = v at hge ⊢
        omega
      · rename_i hs
        have hk := refKids_spec G p (fun c x y => refQuiesce G fuel c (ply + 1) x y)
          (fun c => nmQuiesce G fuel c (ply + 1))
          (sortByScore G ((legalMovesOf G p).filter G.isCapture)) (G.eval p) (max a (G.eval p)) b (by omega)
          (fun m _ x y hxy => refQuiesce_fs G fuel (G.play p m) (ply + 1) x y hxy)
        rw [maxList_sort G (fun m => - nmQuiesce G fuel (G.play p m) (ply + 1))] at hk
        exact hk.good hge (by omega)

theorem refNegamax_fs (G : Game P M) : ∀ (fuel : Nat) (p : P) (depth ply : Nat) (a b : Int),
    EvalBoundedFrom G p → 1 ≤ ply → ply ≤ 255 → a < b →
    Good (negamax G fuel p depth ply) a b (refNegamax G fuel p depth ply a b)
  | 0, p, depth, ply, a, b, _, _, _, _ => by simp only [refNegamax, negamax]; exact good_self _ _ _
  | fuel + 1, p, depth, ply, a, b, he, h1, h2, hab => by
    haveI : DecidableEq M := fun x y => Classical.propDecidable (x = y)
    simp only [refNegamax, negamax]
    generalize (if G.inCheck p = true then depth + 1 else depth) = dep
    by_cases hply : ply = 255
    · rw [if_pos hply, if_pos hply]; exact good_self _ _ _
    rw [if_neg hply, if_neg hply]
    by_cases hdraw : (G.fifty p || G.repeated p) = true
    · rw [if_pos hdraw, if_pos hdraw]; exact good_self _ _ _
    rw [if_neg hdraw, if_neg hdraw]
    by_cases h0 : dep = 0
    · rw [if_pos h0, if_pos h0]; exact refQuiesce_fs G (fuel + 1) p ply a b hab
    rw [if_neg h0, if_neg h0]
    cases hl : legalMovesOf G p with
    | nil => exact good_self _ _ _
    | cons m0 ms0 =>
      simp only []
      rw [← hl]
      have hmem : ∀ m ∈ sortByScore G (legalMovesOf G p), m ∈ legalMovesOf G p :=
        fun m hm => (sortByScore_perm G _).mem_iff.1 hm
      have hb : ∀ m ∈ legalMovesOf G p, EvalBoundedFrom G (G.play p m) :=
        fun m hm => evalBounded_step he (mem_legalMovesOf.1 hm).1
      have := refKids_good G p (fun c x y => refNegamax G fuel c (dep - 1) (ply + 1) x y)
        (fun c => negamax G fuel c (dep - 1) (ply + 1)) (sortByScore G (legalMovesOf G p)) a b hab
        (fun h => by have := (sortByScore_perm G (legalMovesOf G p)).length_eq; rw [h, hl] at this; cases this)
        (fun m hm x y hxy => refNegamax_fs G fuel (G.play p m) (dep - 1) (ply + 1) x y (hb m (hmem m hm))
          (by omega) (by omega) hxy)
        (fun m hm => by
          have := negamax_range G fuel (G.play p m) (dep - 1) (ply + 1) (hb m (hmem m hm)) (by omega) (by omega)
          omega)
      rwa [maxList_sort G (fun m => - negamax G fuel (G.play p m) (dep - 1) (ply + 1))] at this
end RCE.Proofs.RefNegamax
