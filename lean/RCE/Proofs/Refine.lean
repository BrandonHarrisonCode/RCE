import RCE.Proofs.RefineAtt
import RCE.Proofs.BoardKey
/-! C03: `make_move` refines `Rules.apply` on legal-game positions. -/
namespace RCE.Proofs.Refine
open RCE RCE.Proofs.BoardBits RCE.Proofs.BoardWF RCE.Proofs.BoardPBB RCE.Proofs.BoardGen RCE.Proofs.BoardMake
  RCE.Proofs.RefineAtt RCE.Proofs.Abs

theorem king_home (b : Board) (hl : Legal b) (c : Color) (home : Square)
    (h : ∀ s : Square, s.rank < 8 → s.file < 8 → b.pieceAt s = some ⟨.king, c⟩ → s = home) :
    b.pieceAt home = some ⟨.king, c⟩ := by
  have hex : ∃ s : Square, s.rank < 8 ∧ s.file < 8 ∧ b.pieceAt s = some ⟨.king, c⟩ := by
    cases c
    · exact hl.kings.1
    · exact hl.kings.2.1
  obtain ⟨s, h1, h2, h3⟩ := hex
  rw [← h s h1 h2 h3]; exact h3

theorem touch_iff (b : Board) (hl : Legal b) (m : Ply) (g : Gen b m)
    (c : Color) (home corner : Square)
    (hhome : ∀ s : Square, s.rank < 8 → s.file < 8 → b.pieceAt s = some ⟨.king, c⟩ → s = home)
    (hrook : b.pieceAt corner = some ⟨.rook, c⟩) :
    revokes m c corner = false ↔
    (m.start ≠ home ∧ m.dest ≠ home ∧ m.start ≠ corner ∧ m.dest ≠ corner) := by
  have hking := king_home b hl c home hhome
  rw [revokes_false]
  have hp := g.shape.piece
  constructor
  · rintro ⟨h1, h2, h3⟩
    refine ⟨fun e => ?_, fun e => ?_, fun e => ?_, fun e => ?_⟩
    · rw [e, hking] at hp; injection hp with hp; exact h1 hp.symm
    · rw [← e] at hking; exact no_king_capture b hl m g c hking
    · rw [e, hrook] at hp; injection hp with hp; exact h2 hp.symm e
    · rw [← e] at hrook
      cases he : m.enPassant
      · have := g.cap; rw [he] at this; simp only [Bool.false_eq_true, if_false] at this
        rw [hrook] at this
        exact h3 this e
      · have := (g.shape.ep he).1; rw [hrook] at this; cases this
  · rintro ⟨h1, h2, h3, h4⟩
    refine ⟨fun e => ?_, fun _ => h3, fun _ => h4⟩
    rw [e] at hp
    exact h1 (hhome _ g.irs.1 g.irs.2 hp)

/-- the `touch` of `Rules.apply`: the move starts or ends on square `s` -/
def touch (m : Ply) (s : Nat) : Bool := m.start.idx == s || m.dest.idx == s

theorem touch_false {b : Board} (m : Ply) (g : Gen b m) (s : Square) (hs : IR s) :
    ((!touch m s.idx) = true) ↔ (m.start ≠ s ∧ m.dest ≠ s) := by
  unfold touch
  simp only [Bool.not_eq_true', Bool.or_eq_false_iff, beq_eq_false_iff_ne, ne_eq,
    idx_eq_iff _ _ g.irs hs, idx_eq_iff _ _ g.ird hs]

/-- a right survives a generated move exactly when the move touches neither the king's home nor the rook's corner
    (given that, while the right is there, king and rook stand there) -/
theorem right_kept (b : Board) (hl : Legal b) (m : Ply) (g : Gen b m)
    (c : Color) (home corner : Square) (ih : IR home) (ic : IR corner) (r : Bool)
    (hk : r = true → ∀ s : Square, s.rank < 8 → s.file < 8 → b.pieceAt s = some ⟨.king, c⟩ → s = home)
    (hr : r = true → b.pieceAt corner = some ⟨.rook, c⟩) :
    (r && !revokes m c corner) = (r && !touch m home.idx && !touch m corner.idx) := by
  cases r
  · rfl
  · rw [Bool.true_and, Bool.true_and, Bool.eq_iff_iff, Bool.not_eq_true', touch_iff b hl m g c home corner (hk rfl) (hr rfl),
      Bool.and_eq_true, touch_false m g home ih, touch_false m g corner ic]
    exact ⟨fun ⟨a, b, c, d⟩ => ⟨⟨a, b⟩, c, d⟩, fun ⟨⟨a, b⟩, c, d⟩ => ⟨a, b, c, d⟩⟩

theorem pos_ext (p q : Rules.Pos) (h1 : p.board = q.board) (h2 : p.turn = q.turn) (h3 : p.wk = q.wk) (h4 : p.wq = q.wq)
    (h5 : p.bk = q.bk) (h6 : p.bq = q.bq) (h7 : p.ep = q.ep) (h8 : p.half = q.half) (h9 : p.full = q.full) : p = q := by
  cases p; cases q; simp only at *; subst_vars; rfl

/-- a rules board from its 64 entries -/
def tab (f : Nat → Option Rules.Piece) : Array (Option Rules.Piece) := (Array.range 64).map f

theorem tab_congr (f g : Nat → Option Rules.Piece) (h : ∀ i, i < 64 → f i = g i) : tab f = tab g := by
  unfold tab
  apply Array.ext
  · simp
  · intro i h1 h2
    simp only [Array.size_map, Array.size_range] at h1
    simp [h i h1]

theorem tab_get? (f : Nat → Option Rules.Piece) (i : Nat) : (tab f)[i]? = if i < 64 then some (f i) else none := by
  unfold tab
  by_cases h : i < 64 <;> simp [h]

theorem tab_set (f : Nat → Option Rules.Piece) (j : Nat) (v : Option Rules.Piece) :
    (tab f).setIfInBounds j v = tab (fun i => if i = j then v else f i) := by
  apply Array.ext_getElem?
  intro i
  rw [Array.getElem?_setIfInBounds, tab_get?, tab_get?]
  have : (tab f).size = 64 := by simp [tab]
  rw [this]
  by_cases e : j = i
  · subst e; simp
  · have e' : ¬ i = j := fun h => e h.symm
    simp [e, e']

/-- the board after `Rules.apply`, as a function of what `apply` computes first -/
def applyBoard (brd : Array (Option Rules.Piece)) (src dst : Nat) (isEp isCastle : Bool) (placed rook : Rules.Piece) :
    Array (Option Rules.Piece) :=
  let b := brd.setIfInBounds src none
  let b := if isEp then b.setIfInBounds ((src / 8) * 8 + dst % 8) none else b
  let b := b.setIfInBounds dst (some placed)
  if isCastle then
    if dst > src then (b.setIfInBounds (src + 3) none).setIfInBounds (src + 1) (some rook)
    else (b.setIfInBounds (src - 4) none).setIfInBounds (src - 1) (some rook)
  else b

theorem apply_eq (p : Rules.Pos) (m : Rules.Move) (pc : Rules.Piece) (h : p.at m.src = some pc) :
    Rules.apply p m =
      (let c := pc.color
      let isPawn := pc.kind == .pawn
      let isEp := isPawn && m.src % 8 != m.dst % 8 && (p.at m.dst).isNone
      let isCapture := (p.at m.dst).isSome || isEp
      let isCastle := pc.kind == .king && (m.dst == m.src + 2 || m.dst + 2 == m.src)
      let placed : Rules.Piece := match m.promo with | some k => ⟨c, k⟩ | none => pc
      let touch (s : Nat) := m.src == s || m.dst == s
      { board := applyBoard p.board m.src m.dst isEp isCastle placed ⟨c, .rook⟩
        turn := c.opp
        wk := p.wk && !touch 4 && !touch 7
        wq := p.wq && !touch 4 && !touch 0
        bk := p.bk && !touch 60 && !touch 63
        bq := p.bq && !touch 60 && !touch 56
        ep := if isPawn && (m.dst == m.src + 16 || m.dst + 16 == m.src) then some (m.src % 8) else none
        half := if isPawn || isCapture then 0 else p.half + 1
        full := if c == .black then p.full + 1 else p.full }) := by
  unfold Rules.apply
  rw [h]
  rfl

theorem isPawn_eq (k : Kind) : ((absPiece k).kind == Rules.Kind.pawn) = (k.pk == .pawn) := by
  obtain ⟨pk, c⟩ := k; cases pk <;> rfl
theorem isKing_eq (k : Kind) : ((absPiece k).kind == Rules.Kind.king) = (k.pk == .king) := by
  obtain ⟨pk, c⟩ := k; cases pk <;> rfl

theorem ofIdx_eq_iff (i : Nat) (s : Square) (hs : IR s) : Square.ofIdx i = s ↔ i = s.idx := by
  constructor
  · intro e; rw [← e, ofIdx_idx]
  · intro e; rw [e, ofIdx_of_idx s hs]

theorem isEp_eq (b : Board) (m : Ply) (g : Gen b m) :
    ((absPiece m.piece).kind == Rules.Kind.pawn && m.start.idx % 8 != m.dest.idx % 8 &&
      ((abs b).at m.dest.idx).isNone) = m.enPassant := by
  rw [isPawn_eq, MoveGen.abs_at_sq b _ g.ird, idx_mod _ g.irs, idx_mod _ g.ird]
  cases he : m.enPassant
  · by_cases hp : m.piece.pk = .pawn
    · by_cases hf : m.dest.file = m.start.file
      · simp [hf]
      · have := g.pdiag hp he hf
        cases h : b.pieceAt m.dest
        · exact absurd h this
        · simp
    · have h1 : (m.piece.pk == PK.pawn) = false := by simpa using hp
      rw [h1]; rfl
  · obtain ⟨h1, -, -, h4, -⟩ := g.shape.ep he
    have hp := (g.epf he).2
    rw [hp, h1]
    simp
    exact fun e => h4 e.symm

theorem isCastle_eq (b : Board) (m : Ply) (g : Gen b m) :
    ((absPiece m.piece).kind == Rules.Kind.king && (m.dest.idx == m.start.idx + 2 || m.dest.idx + 2 == m.start.idx))
      = m.isCastles := by
  rw [isKing_eq]
  cases hc : m.isCastles
  · by_cases hk : m.piece.pk = .king
    · have := g.kingAdj hk hc
      have := MoveGen.king_geo _ _ (idx_lt _ g.irs) (idx_lt _ g.ird) this
      simp [hk, this.1, this.2]
    · have h1 : (m.piece.pk == PK.king) = false := by simpa using hk
      rw [h1]; rfl
  · rw [g.shape.castleKing hc]
    rcases (g.shape.castleCase hc).ends with ⟨s, d⟩ | ⟨s, d⟩ | ⟨s, d⟩ | ⟨s, d⟩ <;> rw [s, d] <;> rfl

theorem placed_eq (b : Board) (m : Ply) (g : Gen b m) :
    (match (absMove m).promo with
      | some k => ({ color := (absPiece m.piece).color, kind := k } : Rules.Piece)
      | none => absPiece m.piece) = absPiece (m.promoted.getD m.piece) := by
  show (match m.promoted.map (fun k => absPK k.pk) with
      | some k => ({ color := (absPiece m.piece).color, kind := k } : Rules.Piece)
      | none => absPiece m.piece) = absPiece (m.promoted.getD m.piece)
  cases hp : m.promoted with
  | none => rfl
  | some q =>
    simp only [Option.map_some, Option.getD_some]
    have := g.promo q hp
    unfold absPiece
    rw [g.shape.color, this]

theorem ep_eq (b : Board) (m : Ply) (g : Gen b m) :
    newEp m = if (m.piece.pk == .pawn && (m.dest.idx == m.start.idx + 16 || m.dest.idx + 16 == m.start.idx)) = true
      then some (m.start.idx % 8) else none := by
  have hs := g.irs.2
  have hd := g.ird.2
  unfold newEp
  cases hdp : m.isDoublePush
  · simp only [Bool.false_eq_true, if_false]
    rw [if_neg]
    intro h
    simp only [Bool.and_eq_true, Bool.or_eq_true, beq_iff_eq] at h
    have := g.prank h.1 hdp
    have h2 := h.2
    unfold Square.idx at h2
    split at this <;> omega
  · obtain ⟨d1, -, -, -, d5, d6⟩ := g.shape.dp hdp
    simp only [if_true]
    rw [if_pos, idx_mod _ g.irs, d5]
    simp only [Bool.and_eq_true, Bool.or_eq_true, beq_iff_eq]
    refine ⟨d1, ?_⟩
    unfold Square.idx
    split at d6 <;> omega

theorem half_eq (b : Board) (m : Ply) (g : Gen b m) :
    newClock b m = if (m.piece.pk == .pawn || (((b.pieceAt m.dest).map absPiece).isSome ||
        (m.piece.pk == .pawn && m.start.idx % 8 != m.dest.idx % 8 && ((b.pieceAt m.dest).map absPiece).isNone))) = true
      then 0 else b.halfmove + 1 := by
  unfold newClock
  by_cases hp : m.piece.pk = .pawn
  · simp [hp]
  · have h1 : (m.piece.pk == PK.pawn) = false := by simpa using hp
    have := g.cap
    rw [(g.nonpawn hp).1] at this
    simp only [Bool.false_eq_true, if_false] at this
    rw [h1, this]
    simp [Board.halfmove]

theorem crs06 : castleRookSquares ⟨0,6⟩ = some (⟨0,7⟩, ⟨0,5⟩) := by decide
theorem crs02 : castleRookSquares ⟨0,2⟩ = some (⟨0,0⟩, ⟨0,3⟩) := by decide
theorem crs76 : castleRookSquares ⟨7,6⟩ = some (⟨7,7⟩, ⟨7,5⟩) := by decide
theorem crs72 : castleRookSquares ⟨7,2⟩ = some (⟨7,0⟩, ⟨7,3⟩) := by decide

/-- the rules' board of a mailbox -/
def absTab (v : Square → Option Kind) : Array (Option Rules.Piece) := tab fun i => (v (Square.ofIdx i)).map absPiece

/-- the abstraction commutes with a point update: `setIfInBounds` on the rules' array -/
theorem absTab_upd (v : Square → Option Kind) (s : Square) (hs : IR s) (o : Option Kind) :
    absTab (upd v s o) = (absTab v).setIfInBounds s.idx (o.map absPiece) := by
  unfold absTab
  rw [tab_set]
  apply tab_congr
  intro i _
  unfold upd
  simp only [ofIdx_eq_iff i s hs]
  split <;> rfl

theorem abs_board_make (b : Board) (m : Ply) (hw : WF b) (g : Gen b m) :
    (abs (b.makeMove m)).board = absTab (finalView b m) :=
  tab_congr _ _ fun i hi => by rw [makeMove_pieceAt b m hw g _ (ofIdx_IR i hi)]

/-- where the rook of a castling move stands and goes, as the rules count squares -/
theorem castle_idx (b : Board) (m : Ply) (h : CastleCase b m) (rs rd : Square) (hcr : castleRookSquares m.dest = some (rs, rd)) :
    (m.dest.idx > m.start.idx ∧ rs.idx = m.start.idx + 3 ∧ rd.idx = m.start.idx + 1) ∨
    (¬ m.dest.idx > m.start.idx ∧ rs.idx = m.start.idx - 4 ∧ rd.idx = m.start.idx - 1) := by
  rcases h.ends with ⟨s, d⟩ | ⟨s, d⟩ | ⟨s, d⟩ | ⟨s, d⟩ <;> (rw [d] at hcr; cases hcr; rw [s, d]; decide)

theorem board_eq (b : Board) (m : Ply) (hl : Legal b) (g : Gen b m) :
    (abs (b.makeMove m)).board = applyBoard (abs b).board m.start.idx m.dest.idx m.enPassant m.isCastles
      (absPiece (m.promoted.getD m.piece)) ⟨(absPiece m.piece).color, .rook⟩ := by
  have hw := hl.wf
  -- the main move, as the rules make it
  have main : absTab (viewMove b.bbs.pieceAt m.start m.dest m.piece m.promoted m.enPassant) =
      (if m.enPassant = true then
          ((abs b).board.setIfInBounds m.start.idx none).setIfInBounds (m.start.idx / 8 * 8 + m.dest.idx % 8) none
        else (abs b).board.setIfInBounds m.start.idx none).setIfInBounds m.dest.idx
          (some (absPiece (m.promoted.getD m.piece))) := by
    have hc : IR ⟨m.start.rank, m.dest.file⟩ := ⟨g.irs.1, g.ird.2⟩
    have hci : (⟨m.start.rank, m.dest.file⟩ : Square).idx = m.start.idx / 8 * 8 + m.dest.idx % 8 := by
      rw [idx_div _ g.irs, idx_mod _ g.ird]; rfl
    rw [viewMove_upd, absTab_upd _ _ g.ird, apply_ite absTab, absTab_upd _ _ hc, absTab_upd _ _ g.irs, hci]
    rfl
  rw [abs_board_make b m hw g]
  unfold finalView castleView applyBoard
  cases hc : m.isCastles
  · simp only [Bool.false_eq_true, if_false]
    exact main
  · obtain ⟨rs, rd, cs⟩ := castle_squares b m hw g hc
    have hrook : ({ color := (absPiece m.piece).color, kind := Rules.Kind.rook } : Rules.Piece) = absPiece ⟨.rook, b.turn⟩ := by
      unfold absPiece; rw [g.shape.color]; rfl
    simp only [if_true, cs.crs]
    rw [viewMove_upd, absTab_upd _ _ cs.ird, hrook]
    simp only [Bool.false_eq_true, if_false]
    rw [absTab_upd _ _ cs.irs, main]
    rcases castle_idx b m (g.shape.castleCase hc) rs rd cs.crs with ⟨h, e1, e2⟩ | ⟨h, e1, e2⟩
    · rw [if_pos h, e1, e2]; rfl
    · rw [if_neg h, e1, e2]; rfl

theorem make_refines' (b : Board) (m : Ply) (hl : Legal b) (hm : m ∈ b.allMoves) :
    abs (b.makeMove m) = Rules.apply (abs b) (absMove m) := by
  have hw := hl.wf
  have g := gen_of_mem b hw m hm
  have hat : (abs b).at (absMove m).src = some (absPiece m.piece) := MoveGen.abs_at_some b g.irs g.shape.piece
  rw [apply_eq _ _ _ hat]
  apply pos_ext <;> dsimp only
  · have hC : ((absPiece m.piece).kind == Rules.Kind.king &&
        ((absMove m).dst == (absMove m).src + 2 || (absMove m).dst + 2 == (absMove m).src)) = m.isCastles :=
      isCastle_eq b m g
    have hE : ((absPiece m.piece).kind == Rules.Kind.pawn && (absMove m).src % 8 != (absMove m).dst % 8 &&
        ((abs b).at (absMove m).dst).isNone) = m.enPassant := isEp_eq b m g
    rw [hC, hE, placed_eq b m g]
    exact board_eq b m hl g
  · show absColor (b.makeMove m).turn = (absColor m.piece.color).opp
    rw [makeMove_turn, g.shape.color]; cases b.turn <;> rfl
  · show (b.makeMove m).rights.wk = (b.rights.wk && !touch m 4 && !touch m 7)
    rw [makeMove_rights]
    exact right_kept b hl m g .white ⟨0,4⟩ ⟨0,7⟩ (by decide) (by decide) _ (fun hr => hl.wf.kings.1 (Or.inl hr))
      hl.wf.rights.1
  · show (b.makeMove m).rights.wq = (b.rights.wq && !touch m 4 && !touch m 0)
    rw [makeMove_rights]
    exact right_kept b hl m g .white ⟨0,4⟩ ⟨0,0⟩ (by decide) (by decide) _ (fun hr => hl.wf.kings.1 (Or.inr hr))
      hl.wf.rights.2.1
  · show (b.makeMove m).rights.bk = (b.rights.bk && !touch m 60 && !touch m 63)
    rw [makeMove_rights]
    exact right_kept b hl m g .black ⟨7,4⟩ ⟨7,7⟩ (by decide) (by decide) _ (fun hr => hl.wf.kings.2 (Or.inl hr))
      hl.wf.rights.2.2.1
  · show (b.makeMove m).rights.bq = (b.rights.bq && !touch m 60 && !touch m 56)
    rw [makeMove_rights]
    exact right_kept b hl m g .black ⟨7,4⟩ ⟨7,0⟩ (by decide) (by decide) _ (fun hr => hl.wf.kings.2 (Or.inr hr))
      hl.wf.rights.2.2.2
  · show (b.makeMove m).ep = _
    rw [makeMove_ep, isPawn_eq]
    exact ep_eq b m g
  · show (b.makeMove m).halfmove = _
    rw [makeMove_halfmove, isPawn_eq]
    have : (abs b).at (absMove m).dst = (b.pieceAt m.dest).map absPiece := MoveGen.abs_at_sq b _ g.ird
    rw [this]
    exact half_eq b m g
  · show (b.makeMove m).fullmove = if (absColor m.piece.color == Rules.Color.black) = true then b.fullmove + 1 else b.fullmove
    rw [makeMove_fullmove, g.shape.color]; cases b.turn <;> rfl

theorem finalView_dest (b : Board) (m : Ply) (hw : WF b) (g : Gen b m) :
    finalView b m m.dest = some (m.promoted.getD m.piece) := by
  have hv : viewMove b.bbs.pieceAt m.start m.dest m.piece m.promoted m.enPassant m.dest = _ := upd_self _ _ _
  unfold finalView castleView
  cases hc : m.isCastles
  · simpa using hv
  · obtain ⟨rs, rd, cs⟩ := castle_squares b m hw g hc
    simp only [if_true, cs.crs]
    exact (viewMove_ne _ _ _ false (Ne.symm cs.rs_dest) (Ne.symm cs.rd_dest) (Ne.symm cs.rd_dest)).trans hv

theorem finalView_start (b : Board) (m : Ply) (hw : WF b) (g : Gen b m) :
    finalView b m m.start = none := by
  have hv : viewMove b.bbs.pieceAt m.start m.dest m.piece m.promoted m.enPassant m.start = none := by
    unfold viewMove
    rw [upd_ne _ _ g.ne, upd_ne _ _ (Ne.symm (capSq_ne_start g.ne fun h => (gen_ep b m g h).2.1)), upd_self]
  unfold finalView castleView
  cases hc : m.isCastles
  · simpa using hv
  · obtain ⟨rs, rd, cs⟩ := castle_squares b m hw g hc
    simp only [if_true, cs.crs]
    exact (viewMove_ne _ _ _ false (Ne.symm cs.rs_start) (Ne.symm cs.rd_start) (Ne.symm cs.rd_start)).trans hv

theorem king_after (b : Board) (hl : Legal b) (m : Ply) (g : Gen b m) (c : Color)
    (hex : ∃ s : Square, s.rank < 8 ∧ s.file < 8 ∧ b.pieceAt s = some ⟨.king, c⟩)
    (hun : ∀ s t : Square, s.rank < 8 → s.file < 8 → t.rank < 8 → t.file < 8 →
      b.pieceAt s = some ⟨.king, c⟩ → b.pieceAt t = some ⟨.king, c⟩ → s = t) :
    (∃ s : Square, s.rank < 8 ∧ s.file < 8 ∧ finalView b m s = some ⟨.king, c⟩) ∧
    (∀ s t : Square, s.rank < 8 → s.file < 8 → t.rank < 8 → t.file < 8 →
      finalView b m s = some ⟨.king, c⟩ → finalView b m t = some ⟨.king, c⟩ → s = t) := by
  have hw := hl.wf
  obtain ⟨s0, a1, a2, a3⟩ := hex
  have hp := g.shape.piece
  have old_or := finalView_king b m g c
  constructor
  · by_cases hk : m.piece = ⟨.king, c⟩
    · refine ⟨m.dest, g.ird.1, g.ird.2, ?_⟩
      rw [finalView_dest b m hw g]
      have : m.promoted = none := (g.nonpawn (by rw [hk]; exact nofun)).2.2
      rw [this, hk]; rfl
    · refine ⟨s0, a1, a2, ?_⟩
      apply finalView_keep b m hw g s0 _ a3
      · intro e; rw [e, hp] at a3; injection a3 with a3; exact hk a3
      · intro e; rw [e] at a3; exact no_king_capture b hl m g c a3
      · intro he e
        obtain ⟨f1, f2⟩ := g.epf he
        obtain ⟨-, f3, -⟩ := hw.ep.2 _ f1
        obtain ⟨-, f4, -⟩ := g.shape.ep he
        rw [← f4, ← e, a3] at f3
        cases f3
      · exact nofun
  · intro s t s1 s2 t1 t2 hs ht
    rcases old_or s hs with ⟨e1, k1⟩ | e1 <;> rcases old_or t ht with ⟨e2, k2⟩ | e2
    · rw [e1, e2]
    · exfalso
      rw [k1] at hp
      have := hun _ _ t1 t2 g.irs.1 g.irs.2 e2 hp
      rw [this, finalView_start b m hw g] at ht; cases ht
    · exfalso
      rw [k2] at hp
      have := hun _ _ s1 s2 g.irs.1 g.irs.2 e1 hp
      rw [this, finalView_start b m hw g] at hs; cases hs
    · exact hun s t s1 s2 t1 t2 e1 e2

theorem kingsPresent_make (b : Board) (hl : Legal b) (m : Ply) (g : Gen b m) :
    KingsPresent (b.makeMove m) := by
  have hv : ∀ s : Square, s.rank < 8 → s.file < 8 → (b.makeMove m).pieceAt s = finalView b m s :=
    fun s h1 h2 => makeMove_pieceAt b m hl.wf g s ⟨h1, h2⟩
  obtain ⟨k1, k2, k3⟩ := hl.kings
  obtain ⟨⟨s, a1, a2, a3⟩, w2⟩ := king_after b hl m g .white k1 (fun s t a b c d => k3 s t a b c d .white)
  obtain ⟨⟨s', b1, b2, b3⟩, bu⟩ := king_after b hl m g .black k2 (fun s t a b c d => k3 s t a b c d .black)
  refine ⟨⟨s, a1, a2, by rw [hv s a1 a2]; exact a3⟩, ⟨s', b1, b2, by rw [hv s' b1 b2]; exact b3⟩, ?_⟩
  intro s t s1 s2 t1 t2 c hs ht
  rw [hv s s1 s2] at hs; rw [hv t t1 t2] at ht
  cases c
  · exact w2 s t s1 s2 t1 t2 hs ht
  · exact bu s t s1 s2 t1 t2 hs ht

/-- through the exactness of the check status: the rules' answer is evaluated, the magic tables are not -/
theorem start_safe : Board.start.isInCheck .black = false := by
  rw [MoveGen.inCheck_exact_pbb Board.start BoardKey.start_bbs_wf .black fun s t hs ht h1 h2 => by
    obtain ⟨sr, sf⟩ := s; obtain ⟨tr, tf⟩ := t
    rw [(BoardKey.start_kings_fin ⟨sr, hs.1⟩ ⟨sf, hs.2⟩).2 h1, (BoardKey.start_kings_fin ⟨tr, ht.1⟩ ⟨tf, ht.2⟩).2 h2]]
  decide +kernel

end RCE.Proofs.Refine
