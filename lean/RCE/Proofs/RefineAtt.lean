import RCE.Proofs.BoardGen
import RCE.Proofs.MoveGenAttacks
/-! `get_attacked_squares` as a union over the mailbox, and its consequence for legal-game positions:
    no generated move captures a king. -/
namespace RCE.Proofs.RefineAtt
open RCE RCE.Proofs.BoardBits RCE.Proofs.BoardWF RCE.Proofs.BoardPBB RCE.Proofs.BoardGen
  RCE.Proofs.Abs RCE.Proofs.MoveGen

theorem opp_of_ne (c d : Color) (h : c ≠ d) : c = d.opp := by cases c <;> cases d <;> first | rfl | exact absurd rfl h

theorem attacked_of_piece (b : Board) (hw : PBB.WF b.bbs) (s : Square) (hs : IR s) (p : Kind)
    (hp : b.pieceAt s = some p) (t : Nat)
    (ha : testBit (kindAttacks p s.idx b.bbs.all) t = true) :
    testBit (b.attackedSquares p.color.opp) t = true := by
  rw [attacked_iff]
  refine ⟨s.idx, idx_lt s hs, ?_⟩
  rw [contrib_bit b hw _ _ _ (idx_lt s hs), ofIdx_of_idx s hs, hp]
  simpa [opp_opp] using ha


theorem inCheck_of (b : Board) (hw : PBB.WF b.bbs) (c : Color) (s : Square) (hs : IR s)
    (hk : b.pieceAt s = some ⟨.king, c⟩) (ha : testBit (b.attackedSquares c) s.idx = true) :
    b.isInCheck c = true := by
  have hi := idx_lt s hs
  have h1 : testBit (b.bbs.get ⟨.king, c⟩) s.idx = true := (pieceAt_iff _ hw s hs _).mp hk
  rw [isInCheck_eq]
  simp only [bne_iff_ne, ne_eq]
  intro h0
  have := (eq_zero_iff _).mp h0 _ hi
  rw [testBit_and, h1, ha] at this
  cases this

theorem no_king_capture (b : Board) (hl : Legal b) (m : Ply) (g : Gen b m) (c : Color) :
    b.pieceAt m.dest ≠ some ⟨.king, c⟩ := by
  intro hk
  have hc : c = b.turn.opp := opp_of_ne _ _ (g.notown _ hk)
  have ha := g.att (by rw [hk]; exact nofun)
  have := attacked_of_piece b hl.wf.bbs m.start g.irs m.piece g.shape.piece _ ha
  rw [g.shape.color, ← hc] at this
  have := inCheck_of b hl.wf.bbs c m.dest g.ird hk this
  rw [hc, hl.safe] at this
  cases this

end RCE.Proofs.RefineAtt
