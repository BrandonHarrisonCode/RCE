import RCE.Proofs.SearchAcross
/-! C13: `Interrupted` is what a firing abort check establishes, and it is sticky (`Le`, `Interrupted.mono`); the
    invariant `Inv` (the model flag `aborted` implies `Interrupted`, and no cache write was made after it) holds
    across the whole search.  C16: without a time limit `abortCheck` does not read the clock, and the search depends on `env` only
    through `abortCheck env` and `env.cacheOff` (`search_congr`). -/
namespace RCE.Proofs.SearchAbort
open RCE.Search RCE.Proofs.SearchDefs RCE.Proofs.SearchUnfold
variable {P M : Type} [DecidableEq M]
set_option linter.unusedSectionVars false

/-- "The search has been told to stop", read off the state and the environment alone: the running flag is cleared, the
    node budget is used up, or a clock reading already made was past a time limit.  The ply cap is not among them.  A
    firing abort check below the cap establishes it (`abortCheck_interrupts'`); under a monotone clock it makes every
    later check fire (`abortCheck_of_interrupted`). -/
def Interrupted (env : Env) (st : St M) : Prop :=
  st.running = false ∨
  (∃ n, env.limits.nodes = some n ∧ st.nodes ≥ n) ∨
  (∃ i, i < st.clockReads ∧
     ((∃ mt, env.limits.movetime = some mt ∧ env.clock i ≥ mt) ∨
      (env.limits.timeControl = true ∧ env.clock i ≥ env.limits.timer)))

/-- the order `Interrupted` is monotone in (`Interrupted.mono`): node count and clock readings only grow, a cleared
    running flag stays cleared; an abort check moves the state up in it (`abortCheck_le`) -/
def Le (st st' : St M) : Prop :=
  st.nodes ≤ st'.nodes ∧ st.clockReads ≤ st'.clockReads ∧ (st.running = false → st'.running = false)

theorem Le.refl (st : St M) : Le st st := ⟨Nat.le_refl _, Nat.le_refl _, id⟩

theorem Interrupted.mono {env : Env} {st st' : St M} (h : Interrupted env st) (hle : Le st st') :
    Interrupted env st' := by
  rcases h with h | ⟨n, h1, h2⟩ | ⟨i, hi, h⟩
  · exact .inl (hle.2.2 h)
  · exact .inr (.inl ⟨n, h1, Nat.le_trans h2 hle.1⟩)
  · exact .inr (.inr ⟨i, Nat.lt_of_lt_of_le hi hle.2.1, h⟩)

theorem abortCheck_le (env : Env) (st : St M) : Le st (abortCheck env st).2 := by
  obtain ⟨r, c, a, h, hc, hr⟩ := abortCheck_eq env st
  rw [h]; exact ⟨Nat.le_refl _, hc, hr⟩

theorem limitsExceeded_aborted (env : Env) (st : St M) : (limitsExceeded env st).2.aborted = st.aborted := by
  obtain ⟨r, c, h, _⟩ := limitsExceeded_eq env st
  rw [h]

/-- the node budget is used up -/
def NodeHit (env : Env) (st : St M) : Prop := ∃ n, env.limits.nodes = some n ∧ st.nodes ≥ n

/-- the `i`-th clock reading is past the move time or the clock budget -/
def Late (env : Env) (i : Nat) : Prop :=
  (∃ mt, env.limits.movetime = some mt ∧ env.clock i ≥ mt) ∨
  (env.limits.timeControl = true ∧ env.clock i ≥ env.limits.timer)

theorem Late.mono {env : Env} (hc : MonoClock env) {i j : Nat} (hij : i ≤ j) (h : Late env i) : Late env j :=
  h.imp (fun ⟨mt, e, g⟩ => ⟨mt, e, Nat.le_trans g (hc i j hij)⟩) fun ⟨e, g⟩ => ⟨e, Nat.le_trans g (hc i j hij)⟩

/-- The verdict of `limitsExceeded` below the ply cap: with the node budget used up it is true and no clock is read;
    otherwise it says whether the last reading made, the `j`-th, is late.  (With a move time set a first reading is tested
    against the move time alone; if that is late it is the last.) -/
theorem limitsExceeded_fst (env : Env) (st : St M) (hp : st.ply ≠ 255) :
    (NodeHit env st → (limitsExceeded env st).1 = true) ∧
    (¬ NodeHit env st → ∃ j, st.clockReads ≤ j ∧ (limitsExceeded env st).2.clockReads = j + 1 ∧
      ((limitsExceeded env st).1 = true ↔ Late env j)) := by
  refine ⟨fun ⟨n, e, g⟩ => ?_, fun hn => ?_⟩ <;> unfold limitsExceeded
  · rw [if_neg (by simpa using hp), e]
    exact congrArg Prod.fst (if_pos (decide_eq_true g))
  rw [if_neg (by simpa using hp), if_neg]
  · unfold Late
    cases env.limits.movetime with
    | none => exact ⟨st.clockReads, Nat.le_refl _, rfl, by simp⟩
    | some mt =>
      dsimp only
      split
      · rename_i h
        exact ⟨st.clockReads, Nat.le_refl _, rfl, by simp [h]⟩
      · exact ⟨st.clockReads + 1, Nat.le_succ _, rfl, by simp⟩
  · intro h
    split at h
    · exact hn ⟨_, ‹_›, of_decide_eq_true h⟩
    · cases h

theorem limitsExceeded_interrupts (env : Env) (st : St M) (hp : st.ply ≠ 255)
    (h : (limitsExceeded env st).1 = true) : Interrupted env (limitsExceeded env st).2 := by
  by_cases hn : NodeHit env st
  · obtain ⟨r, c, e, _⟩ := limitsExceeded_eq env st
    rw [e]
    exact .inr (.inl hn)
  · obtain ⟨j, _, hj, hiff⟩ := (limitsExceeded_fst env st hp).2 hn
    exact .inr (.inr ⟨j, by omega, hiff.1 h⟩)

/-- the part of `Interrupted` that `limitsExceeded` tests (`limitsExceeded_of_limitHit`): `NodeHit`, or a reading already
    made is `Late`; the running flag is `poll`'s -/
def LimitHit (env : Env) (st : St M) : Prop :=
  (∃ n, env.limits.nodes = some n ∧ st.nodes ≥ n) ∨
  (∃ i, i < st.clockReads ∧
     ((∃ mt, env.limits.movetime = some mt ∧ env.clock i ≥ mt) ∨
      (env.limits.timeControl = true ∧ env.clock i ≥ env.limits.timer)))

/-- under a monotone clock a late reading stays late, so the last reading of this call is -/
theorem limitsExceeded_of_limitHit (env : Env) (st : St M) (hc : MonoClock env) (h : LimitHit env st) :
    (limitsExceeded env st).1 = true := by
  by_cases hp : st.ply = 255
  · unfold limitsExceeded
    rw [if_pos (by simpa using hp)]
  by_cases hn : NodeHit env st
  · exact (limitsExceeded_fst env st hp).1 hn
  · obtain ⟨j, hj, _, hiff⟩ := (limitsExceeded_fst env st hp).2 hn
    obtain ⟨i, hi, hl⟩ := h.resolve_left hn
    exact hiff.2 (Late.mono hc (by omega) hl)

theorem interrupted_iff (env : Env) (st : St M) : Interrupted env st ↔ (st.running = false ∨ LimitHit env st) := Iff.rfl

theorem poll_aborted (env : Env) (st : St M) : (poll env st).2.aborted = st.aborted := rfl

theorem abortCheck_aborted (env : Env) (st : St M) (h : (abortCheck env st).2.aborted = true) :
    st.aborted = true ∨ ((abortCheck env st).1 = true ∧ Interrupted env (abortCheck env st).2) := by
  rcases abortCheck_cases env st with ⟨h', hr⟩ | ⟨h', _⟩ | ⟨_, hp, h'⟩ <;> rw [h'] at h ⊢
  · exact .inr ⟨rfl, .inl hr⟩
  · exact .inl h
  · by_cases hx : (limitsExceeded env (poll env st).2).1 = true
    · rw [if_pos hx]
      exact .inr ⟨hx, (limitsExceeded_interrupts env (poll env st).2 hp hx).mono (Le.refl _)⟩
    · rw [if_neg hx, limitsExceeded_aborted] at h
      exact .inl h

theorem abortCheck_of_interrupted (env : Env) (st : St M) (hc : MonoClock env) (h : Interrupted env st) :
    (abortCheck env st).1 = true := by
  rcases abortCheck_cases env st with ⟨h', _⟩ | ⟨h', _⟩ | ⟨hr, _, h'⟩ <;> rw [h']
  rcases h with h | h
  · rw [poll_of_stopped env st h] at hr; cases hr
  · exact limitsExceeded_of_limitHit env (poll env st).2 hc h

/-- in an interrupted state a node does nothing beyond its abort check -/
theorem ab_of_interrupted (env : Env) (G : Game P M) (fuel : Nat) (p : P) (a b : Int) (depth : Nat) (st : St M)
    (hc : MonoClock env) (hs : Interrupted env st) :
    ab env G (fuel + 1) p a b depth st = (0, (abortCheck env st).2) := by
  rw [ab_succ]
  simp only [abortCheck_of_interrupted env st hc hs, if_true]

theorem abortCheck_interrupts' (env : Env) (st : St M) (hp : st.ply < 255)
    (h : (abortCheck env st).1 = true) : Interrupted env (abortCheck env st).2 := by
  rcases abortCheck_cases env st with ⟨h', hr⟩ | ⟨_, _, hp'⟩ | ⟨_, hp', h'⟩
  · rw [h']; exact .inl hr
  · omega
  · rw [h'] at h ⊢
    rw [if_pos h]
    exact (limitsExceeded_interrupts env (poll env st).2 hp' h).mono (Le.refl _)

/-- C13's invariant: the model flag `aborted` is set only in an interrupted state, and no cache write recorded so far
    was made with the flag set -/
def Inv (env : Env) (st : St M) : Prop :=
  (st.aborted = true → Interrupted env st) ∧ ∀ w ∈ st.writes, w.afterAbort = false

theorem abortCheck_inv {env : Env} {st : St M} (hc : MonoClock env) (h : Inv env st) :
    Inv env (abortCheck env st).2 ∧ ((abortCheck env st).1 = false → (abortCheck env st).2.aborted = false) := by
  have hf := abortCheck_frame env st
  have hle := abortCheck_le env st
  have ha := abortCheck_aborted env st
  refine ⟨⟨fun h' => ?_, ?_⟩, fun h' => ?_⟩
  · rcases ha h' with h1 | h1
    · exact (h.1 h1).mono hle
    · exact h1.2
  · rw [hf.writes]; exact h.2
  · cases hab : (abortCheck env st).2.aborted with
    | false => rfl
    | true =>
      rcases ha hab with h1 | h1
      · have := abortCheck_of_interrupted env st hc (h.1 h1)
        rw [this] at h'; cases h'
      · rw [h1.1] at h'; cases h'

theorem insert_inv {env : Env} {st : St M} (h : Inv env st) (ha : st.aborted = false) (k : UInt64) (e : Entry M) (site : Nat) :
    Inv env (st.insert k e site) := by
  refine ⟨fun h' => h.1 h', ?_⟩
  intro w hw
  simp only [St.insert, List.mem_cons] at hw
  rcases hw with rfl | hw
  · exact ha
  · exact h.2 w hw

theorem probeSt_aborted (env : Env) (st : St M) : (probeSt env st).aborted = st.aborted := by
  rw [probeSt_eq]

theorem inv_across {env : Env} (hc : MonoClock env) (G : Game P M) :
    AcrossRoot env G (fun s t : St M => Inv env s → Inv env t) where
  refl _ := id
  trans h1 h2 := h2 ∘ h1
  check _ h := (abortCheck_inv hc h).1
  child h hs := h ⟨fun h' => (hs.1 h').mono ⟨Nat.le_succ _, Nat.le_refl _, id⟩, hs.2⟩
  probe _ h := by rw [probeSt_eq]; exact h
  killers m s h := by obtain ⟨k, e⟩ := storeKillers_eq G m s; rw [e]; exact h
  -- an insert follows an abort check that did not fire, so the flag is clear
  insert _ _ _ _ hf _ ht := insert_inv (abortCheck_inv hc ht).1 ((abortCheck_inv hc ht).2 hf) _ _ _
  best _ _ _ h := h

theorem limitsExceeded_clock_indep (env : Env) (clock' : Nat → Nat) (h : NoTimeLimit env) (st : St M) :
    limitsExceeded { env with clock := clock' } st = limitsExceeded env st := by
  unfold limitsExceeded
  simp only [h.1, h.2, Bool.false_and]

theorem abortCheck_clock_indep (env : Env) (clock' : Nat → Nat) (h : NoTimeLimit env) :
    abortCheck (M := M) { env with clock := clock' } = abortCheck env := by
  funext st
  unfold abortCheck
  have hp : poll { env with clock := clock' } st = poll env st := rfl
  rw [hp]
  simp only [limitsExceeded_clock_indep env clock' h]

section congr
variable {env env' : Env} (hac : abortCheck (M := M) env' = abortCheck env) (hco : env'.cacheOff = env.cacheOff)
include hac

theorem quiesce_congr (G : Game P M) : ∀ fuel, quiesce env' G fuel = quiesce env G fuel := by
  intro fuel
  induction fuel with
  | zero => rfl
  | succ fuel ih =>
    funext p alpha beta st
    simp only [quiesce_succ, hac, ih]

theorem abKids_congr (G : Game P M) (rec : P → Int → Int → Nat → St M → Int × St M) (p : P) (depth : Nat) :
    ∀ ms, abKids env' G rec p depth ms = abKids env G rec p depth ms := by
  intro ms
  induction ms with
  | nil => rfl
  | cons m ms ih =>
    funext alpha beta best pvs n st
    simp only [abKids_cons, hac, ih]

theorem rootKids_congr (G : Game P M) (rec : P → Int → Int → Nat → St M → Int × St M) (p : P) (depth : Nat) :
    ∀ ms, rootKids env' G rec p depth ms = rootKids env G rec p depth ms := by
  intro ms
  induction ms with
  | nil => rfl
  | cons m ms ih =>
    funext alpha best pvs n st
    simp only [rootKids_cons, hac, ih]

include hco

theorem ab_congr (G : Game P M) : ∀ fuel, ab env' G fuel = ab env G fuel := by
  intro fuel
  induction fuel with
  | zero => rfl
  | succ fuel ih =>
    funext p alpha beta depth st
    simp only [ab_succ, abBody, probeSt, hac, hco, ih, quiesce_congr hac, abKids_congr hac]

theorem abStart_congr (G : Game P M) (p : P) (depth : Nat) (st : St M) :
    abStart env' G p depth st = abStart env G p depth st := by
  simp only [abStart_eq, rootSave, hac, ab_congr hac hco, rootKids_congr hac]

theorem iterate_congr (G : Game P M) (p : P) (maxDepth : Nat) :
    ∀ fuel d st infos, iterate env' G p maxDepth fuel d st infos = iterate env G p maxDepth fuel d st infos := by
  intro fuel
  induction fuel with
  | zero => intro d st infos; rfl
  | succ fuel ih =>
    intro d st infos
    simp only [iterate_succ, hac, abStart_congr hac hco, ih]

theorem search_congr (G : Game P M) (p : P) (maxDepth : Option Nat) (tt0 : Table M) :
    search env' G p maxDepth tt0 = search env G p maxDepth tt0 := by
  unfold search
  simp only [iterate_congr hac hco]

end congr

end RCE.Proofs.SearchAbort
