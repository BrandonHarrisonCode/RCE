import RCE.Proofs.SearchLoops
/-! One traversal of the search for every relation between the state a routine receives and the state it returns.

    `R s t` is to hold whenever `t` is the state some routine of the search returns when started in `s`.  It is
    enough that `R` is reflexive and transitive and holds across each primitive step; the three structures say which
    steps `quiesce` (`AcrossQ`), `ab` (`Across`) and `abStart` / `iterate` (`AcrossRoot`) are made of.  A state
    invariant `I` is the relation `fun s t => I s → I t`. -/
namespace RCE.Proofs.SearchUnfold
open RCE.Search RCE.Proofs.SearchDefs

variable {P M : Type} [DecidableEq M]
set_option linter.unusedSectionVars false

/-- the steps of `quiesce`: abort checks and children -/
structure AcrossQ (env : Env) (R : St M → St M → Prop) : Prop where
  refl : ∀ s, R s s
  trans : ∀ {s t u}, R s t → R t u → R s u
  check : ∀ s, R s (abortCheck env s).2
  /-- a child: entered, searched, left -/
  child : ∀ {b s t}, R (enter b s) t → R s (leave t)

/-- the steps of `ab`: also the cache switch, the killer table, and the cache inserts.  Every insert stores a
    generated move of the node under the node's key, into the state an abort check has just left without firing; the
    step is taken from the state `t` before that check, so that an invariant of `t` can say what the check leaves. -/
structure Across (env : Env) (G : Game P M) (R : St M → St M → Prop) : Prop extends AcrossQ env R where
  probe : ∀ s, R s (probeSt env s)
  killers : ∀ m s, R s (storeKillers G m s)
  insert : ∀ (t : St M) (p : P) (e : Entry M) (site : Nat), (abortCheck env t).1 = false → e.best ∈ G.allMoves p →
    R t ((abortCheck env t).2.insert (G.key p) e site)

/-- the steps of `abStart` and `iterate`: also setting the reported move and score -/
structure AcrossRoot (env : Env) (G : Game P M) (R : St M → St M → Prop) : Prop extends Across env G R where
  best : ∀ s (a : Option Int) (m : Option M), R s { s with bestScore := a, bestMove := m }

variable {env : Env} {G : Game P M} {R : St M → St M → Prop}

theorem AcrossQ.pvsChild (h : AcrossQ env R) {rec : P → Int → Int → Nat → St M → Int × St M}
    (hrec : ∀ c a b d s, R s (rec c a b d s).2) (G : Game P M) (p : P) (m : M) (alpha beta : Int) (depth : Nat)
    (pvs updSel : Bool) (st : St M) : R st (pvsChild G rec p m alpha beta depth pvs updSel st).2 :=
  pvsChild_ind (S := fun s => R (enter updSel st) s) (Q := fun r => R st r.2) (h.refl _)
    (fun _ hs => ⟨h.trans hs (hrec _ _ _ _ _), fun _ => h.child (h.trans hs (hrec _ _ _ _ _))⟩)
    (fun _ hs => h.child (h.trans hs (hrec _ _ _ _ _)))

theorem AcrossQ.quiesce (h : AcrossQ env R) (G : Game P M) :
    ∀ (fuel : Nat) (p : P) (alpha beta : Int) (st : St M), R st (quiesce env G fuel p alpha beta st).2 := by
  intro fuel
  induction fuel with
  | zero => intro p alpha beta st; exact h.refl st
  | succ fuel ih =>
    intro p alpha beta st
    rw [quiesce_succ]
    dsimp only
    split
    · exact h.check st
    · split
      · exact h.check st
      · rw [qKids_filter]
        refine qKids_ind (Inv := fun _ _ s => R st s) (Post := fun res => R st res.st)
          (fun m hm => (List.mem_filter.1 ((ordered_captures_perm G p _ _).mem_iff.1 hm)).1) ?_ (h.check st)
          (fun _ _ hs => hs)
        intro _ m _ a s r _ _ hs hr
        have := h.trans hs (h.pvsChild (rec := fun c a b _ => Search.quiesce env G fuel c a b) (fun c a b _ s => ih c a b s)
          G p m a beta 0 false true s)
        rw [← hr] at this
        exact ⟨fun _ => this, fun _ => this⟩

/-- what the move loop of `Across.ab` remembers once it has counted a move, so that the store after the loop meets the
    hypotheses of `Across.insert`: its state came out of an abort check that did not fire -/
def Passed (env : Env) (R : St M → St M → Prop) (s0 st : St M) : Prop :=
  ∃ t, R s0 t ∧ abortCheck env t = (false, st)

theorem Across.insert_passed (h : Across env G R) {s0 st : St M} (hp : Passed env R s0 st) (p : P) (e : Entry M)
    (site : Nat) (he : e.best ∈ G.allMoves p) : R s0 (st.insert (G.key p) e site) := by
  obtain ⟨t, ht, heq⟩ := hp
  have := h.insert t p e site (by rw [heq]) he
  rw [heq] at this
  exact h.trans ht this

theorem Across.ab (h : Across env G R) :
    ∀ (fuel : Nat) (p : P) (alpha beta : Int) (depth : Nat) (st : St M), R st (ab env G fuel p alpha beta depth st).2 := by
  intro fuel
  induction fuel with
  | zero => intro p alpha beta depth st; exact h.refl st
  | succ fuel ih =>
    intro p alpha0 beta0 depth st
    refine ab_cases (Q := fun r => R st r.2) (fun c hc _ => hc ▸ h.check st) fun c st2 hc _ _ _ hst2 => ?_
    have hp : R st st2 := hst2 ▸ hc ▸ h.trans (h.check st) (h.probe _)
    refine ⟨fun _ _ => hp, fun alpha beta d _ _ => ⟨fun _ => h.trans hp (h.toAcrossQ.quiesce G _ _ _ _ _), fun _ out hout => ?_⟩⟩
    -- `best` is a generated move as soon as there is one; after a counted move the state was left by a check
    have hk : R st out.st ∧ ∀ a b n s, out = .done a b n s → n ≠ 0 → b ∈ G.allMoves p ∧ Passed env R st s := by
      rw [hout, abKids_filter]
      refine abKids_ind (Inv := fun _ _ best n s => R st s ∧ (∀ x ∈ G.allMoves p, best ∈ G.allMoves p) ∧
          (n ≠ 0 → best ∈ G.allMoves p ∧ Passed env R st s))
        (Post := fun res => R st res.st ∧ ∀ a b n s, res = .done a b n s → n ≠ 0 → b ∈ G.allMoves p ∧ Passed env R st s)
        (fun m hm => (ordered_legal_perm G p _ _).mem_iff.1 hm) ?_
        ⟨hp, fun x hx => by cases hl : G.allMoves p with
          | nil => rw [hl] at hx; cases hx
          | cons y ys => exact List.mem_cons_self, fun h0 => absurd rfl h0⟩
        (fun _ _ _ _ hs => ⟨hs.1, fun _ _ _ _ heq hn => by cases heq; exact hs.2.2 hn⟩)
      intro _ m _ al best pvs n s r c _ hm hs hr hcc
      have hma := (mem_legalMovesOf.1 hm).1
      have h1 : R st r.2 := hr ▸ h.trans hs.1 (h.pvsChild ih G p m al beta d pvs true s)
      have h2 : R st c.2 := hcc ▸ h.trans h1 (h.check r.2)
      have hpass : c.1 = false → Passed env R st c.2 := fun hf => ⟨r.2, h1, hcc ▸ Prod.ext hf rfl⟩
      have hb : (if al < r.1 then m else best) ∈ G.allMoves p := ite_pred (· ∈ G.allMoves p) hma (hs.2.1 m hma)
      exact ⟨fun _ => ⟨h2, fun _ _ _ _ heq => by cases heq⟩,
        fun hf _ => ⟨h.trans (h.insert_passed (hpass hf) p _ 2 hma) (h.killers m _), fun _ _ _ _ heq => by cases heq⟩,
        fun hf _ => ⟨h2, fun _ _ => hb, fun _ => ⟨hb, hpass hf⟩⟩⟩
    cases out with
    | abort s => exact hk.1
    | cut s => exact hk.1
    | done a b n s =>
      refine ⟨fun _ => ite_pred (fun r : Int × St M => R st r.2) hk.1 hk.1, fun hn => ?_⟩
      obtain ⟨hb, hpass⟩ := hk.2 a b n s rfl hn
      exact h.insert_passed hpass p _ 3 hb

theorem AcrossRoot.rootAbort (h : AcrossRoot env G R) (alpha : Int) (best : M) (st : St M) :
    R st (rootAbort alpha best st) := by
  unfold SearchUnfold.rootAbort
  exact ite_pred (R st) (h.best _ _ _) (h.refl st)

theorem AcrossRoot.abStart (h : AcrossRoot env G R) (p : P) (depth : Nat) (st : St M) :
    R st (abStart env G p depth st) := by
  refine abStart_ind (Inv := fun _ _ best _ s => R st s ∧ best ∈ G.allMoves p) (fun _ => h.refl st)
    (fun _ hm => ⟨h.refl st, hm⟩) ?_ (fun a b n s _ hs => ?_)
  · intro _ m _ al best pvs _ s r c _ hm hs _ hr hcc
    have h2 : R st c.2 := hcc ▸ hr ▸ h.trans (h.trans hs.1 (h.pvsChild (h.toAcross.ab 255) G p m al MAXS depth pvs false s))
      (h.check _)
    exact ⟨fun _ => h.trans h2 (h.rootAbort _ _ _),
      fun _ => ⟨h2, ite_pred (· ∈ G.allMoves p) (mem_legalMovesOf.1 hm).1 hs.2⟩⟩
  · split
    · exact hs.1
    · unfold rootSave
      split
      · exact h.trans hs.1 (h.check _)
      · rename_i hc
        exact h.trans hs.1 (h.trans (h.insert s p ⟨a, depth, .exact, b⟩ 1 ((Bool.not_eq_true _).mp hc) hs.2) (h.best _ _ _))

theorem AcrossRoot.step (h : AcrossRoot env G R) (p : P) (d : Nat) (st : St M) :
    R st (abortCheck env (Search.abStart env G p d st)).2 := h.trans (h.abStart p d st) (h.check _)

theorem AcrossRoot.iterate (h : AcrossRoot env G R) (p : P) (maxDepth fuel d : Nat) (st : St M)
    (infos : List (InfoLine M)) : R st (iterate env G p maxDepth fuel d st infos).1 :=
  iterate_ind (Inv := fun _ s _ => R st s) (Q := fun r => R st r.1) (fun _ _ _ hs _ => hs)
    (fun d s _ _ hs _ hc => have := hc ▸ h.trans hs (h.step p d s); ⟨fun _ => this, fun _ => this⟩) (h.refl st)

theorem quiesce_tt (env : Env) (G : Game P M) (fuel : Nat) (p : P) (a b : Int) (st : St M) :
    (quiesce env G fuel p a b st).2.tt = st.tt :=
  AcrossQ.quiesce (R := fun s t : St M => t.tt = s.tt)
    ⟨fun _ => rfl, fun h1 h2 => h2.trans h1, fun s => (abortCheck_frame env s).tt, fun h => h⟩ G fuel p a b st

/-- What the whole search keeps, the root loop included (`kept_across`): the ply; `running`, but only when nothing limits
    the search (otherwise an abort check may clear it); that cached moves are generated moves, but only under
    `KeyMoves` (an entry stored under `G.key p` is read back in every position with that key).  C11 (`Live.kept`) and
    C14 (`SearchInfo`) use it.  Its neighbours: `Frame` (`SearchUnfold`: what one abort check keeps), `Keep`
    (`SearchBest`: ply and the reported move and score, below the root only). -/
structure Kept (env : Env) (G : Game P M) (s t : St M) : Prop where
  ply : t.ply = s.ply
  running : Unlimited env → t.running = s.running
  moves : KeyMoves G → TableMovesOK G s.tt → TableMovesOK G t.tt

theorem Kept.of_eq {env : Env} {G : Game P M} {s t : St M} (h1 : t.ply = s.ply) (h2 : t.running = s.running)
    (h3 : t.tt = s.tt) : Kept env G s t := ⟨h1, fun _ => h2, fun _ h => by rw [h3]; exact h⟩

theorem poll_running (env : Env) (st : St M) (hu : Unlimited env) :
    (poll env st).2.running = st.running ∧ (poll env st).1 = st.running := by
  simp [poll, hu.2.2.2]

theorem limitsExceeded_unl (env : Env) (st : St M) (hu : Unlimited env) :
    (limitsExceeded env st).2.running = st.running ∧ (limitsExceeded env st).1 = (st.ply == 255) := by
  obtain ⟨h1, h2, h3, _⟩ := hu
  unfold limitsExceeded
  by_cases h : st.ply = 255 <;> simp [h, h1, h2, h3]

theorem abortCheck_unl (env : Env) (st : St M) (hu : Unlimited env) :
    (abortCheck env st).2.running = st.running ∧
      (st.running = true → (abortCheck env st).1 = (st.ply == 255)) := by
  have hp := poll_running env st hu
  have hl := limitsExceeded_unl env (poll env st).2 hu
  rcases abortCheck_cases env st with ⟨h, h'⟩ | ⟨h, _, h'⟩ | ⟨_, h', h⟩ <;> rw [h]
  · exact ⟨hp.1, fun hr => by rw [hp.2, hr] at h'; cases h'⟩
  · exact ⟨hp.1, fun _ => by simp [h']⟩
  · refine ⟨?_, fun _ => by simp [hl.2, show (poll env st).2.ply = st.ply from rfl]⟩
    dsimp only
    split
    · exact hl.1.trans hp.1
    · exact hl.1.trans hp.1

theorem tableMovesOK_insert {G : Game P M} {tt : Table M} {p : P} {e : Entry M} (hk : KeyMoves G)
    (h : TableMovesOK G tt) (he : e.best ∈ G.allMoves p) : TableMovesOK G (tt.insert (G.key p) e) := by
  intro q e' hq
  rcases getElem?_insert_elim hq with ⟨hkey, rfl⟩ | hq
  · rw [← (hk p q hkey).1]; exact he
  · exact h q e' hq

theorem tableMovesOK_empty (G : Game P M) : TableMovesOK G ({} : Table M) := by
  intro q e hq
  simp at hq

theorem Kept.trans {env : Env} {G : Game P M} {s t u : St M} (h1 : Kept env G s t) (h2 : Kept env G t u) : Kept env G s u :=
  ⟨h2.ply.trans h1.ply, fun hu => (h2.running hu).trans (h1.running hu), fun hk h => h2.moves hk (h1.moves hk h)⟩

theorem Kept.check (env : Env) (G : Game P M) (s : St M) : Kept env G s (abortCheck env s).2 :=
  ⟨(abortCheck_frame env s).ply, fun hu => (abortCheck_unl env s hu).1, fun _ h => (abortCheck_frame env s).tt ▸ h⟩

theorem Kept.insert (env : Env) {G : Game P M} (st : St M) {p : P} {e : Entry M} (site : Nat) (he : e.best ∈ G.allMoves p) :
    Kept env G st (st.insert (G.key p) e site) :=
  ⟨rfl, fun _ => rfl, fun hk h => tableMovesOK_insert hk h he⟩

theorem kept_across (env : Env) (G : Game P M) : AcrossRoot env G (Kept env G) where
  refl _ := Kept.of_eq rfl rfl rfl
  trans := Kept.trans
  check := Kept.check env G
  child h := ⟨by show _ - 1 = _; rw [h.ply]; rfl, h.running, h.moves⟩
  probe s := by
    rw [probeSt_eq]
    exact ⟨rfl, fun _ => rfl, fun _ h => by dsimp only; split; exact tableMovesOK_empty G; exact h⟩
  killers m s := by
    obtain ⟨k, h⟩ := storeKillers_eq G m s
    rw [h]; exact Kept.of_eq rfl rfl rfl
  insert t _ _ site _ he := (Kept.check env G t).trans (Kept.insert env _ site he)
  best _ _ _ := Kept.of_eq rfl rfl rfl

/-- the line `iterate` appends after the iteration of depth `d` (`iterate_succ`) -/
def lineOf (G : Game P M) (p : P) (d : Nat) (st : St M) : InfoLine M := infoLine d st (getPv G st.tt d p)

/-- where an info line comes from, as `iterate_lines` says of each: through it a fact about one iteration and the check
    after it becomes a fact about every line printed (`pv_legal`, `info_score_shape`) -/
def Reported (env : Env) (G : Game P M) (p : P) (I : St M → Prop) (i : InfoLine M) : Prop :=
  ∃ d s, 1 ≤ d ∧ I s ∧ (abortCheck env (abStart env G p d s)).1 = false ∧
    i = lineOf G p d (abortCheck env (abStart env G p d s)).2

/-- from the start of a search (depth 1, nothing reported yet), for an invariant `I` of the step "one iteration and the
    check after it": `I` holds at the end and every line is `Reported` from an `I` state -/
theorem iterate_lines {I : St M → Prop} (p : P) (md : Nat)
    (hI : ∀ d st, I st → I (abortCheck env (abStart env G p d st)).2) (fuel : Nat) (st : St M) (hs : I st) :
    I (iterate env G p md fuel 1 st []).1 ∧ ∀ i ∈ (iterate env G p md fuel 1 st []).2, Reported env G p I i := by
  refine iterate_ind (Q := fun r => I r.1 ∧ ∀ i ∈ r.2, Reported env G p I i)
    (Inv := fun d' s' infos' => 1 ≤ d' ∧ I s' ∧ ∀ i ∈ infos', Reported env G p I i)
    (fun _ _ _ h _ => h.2) ?_ ⟨Nat.le_refl 1, hs, fun i hi => absurd hi List.not_mem_nil⟩
  intro d' s' infos' c ⟨h1, h2, h3⟩ _ hc
  subst hc
  exact ⟨fun _ => ⟨hI d' s' h2, h3⟩, fun hf => ⟨Nat.le_succ_of_le h1, hI d' s' h2, fun i hi =>
    (List.mem_append.1 hi).elim (h3 i) fun hi => ⟨d', s', h1, h2, hf, List.mem_singleton.1 hi⟩⟩⟩

/-- the depths reported are `1 … k` for some `k ≤ md`, and `k = md` if no abort check fires and the fuel suffices (`I`
    as in `iterate_lines`) -/
theorem iterate_depths {I : St M → Prop} (p : P) (md : Nat)
    (hI : ∀ d st, I st → I (abortCheck env (abStart env G p d st)).2) (fuel : Nat) (st : St M) (hs : I st) :
    ∃ k, (iterate env G p md fuel 1 st []).2.map (·.depth) = List.range' 1 k ∧ k ≤ md ∧
      ((∀ d s, I s → (abortCheck env (abStart env G p d s)).1 = false) → md ≤ fuel → k = md) := by
  refine iterate_ind (Q := fun r => ∃ k, r.2.map (·.depth) = List.range' 1 k ∧ k ≤ md ∧
      ((∀ d s, I s → (abortCheck env (abStart env G p d s)).1 = false) → md ≤ fuel → k = md))
    (Inv := fun d' s' infos' => I s' ∧ 1 ≤ d' ∧ d' ≤ md + 1 ∧ infos'.map (·.depth) = List.range' 1 (d' - 1))
    (fun d' _ _ ⟨_, h2, h3, h4⟩ hx => ⟨d' - 1, h4, by omega, fun _ _ => by omega⟩) ?_
    ⟨hs, Nat.le_refl _, by omega, rfl⟩
  intro d' s' infos' c ⟨h1, h2, h3, h4⟩ hmd hc
  subst hc
  refine ⟨fun hf => ⟨d' - 1, h4, by omega, fun hn _ => by rw [hn d' s' h1] at hf; cases hf⟩,
    fun _ => ⟨hI d' s' h1, by omega, by omega, ?_⟩⟩
  rw [List.map_append, h4, show d' + 1 - 1 = (d' - 1) + 1 by omega, List.range'_concat]
  simp [infoLine]; omega

end RCE.Proofs.SearchUnfold
