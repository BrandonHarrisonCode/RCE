import RCE.Proofs.SearchAcross
/-! C09: the ply counter is restored by every subtree search, search values stay inside `i16`, and the
    move answered by `search` is a legal move of the root position. -/
namespace RCE.Proofs.SearchBest
open RCE.Search RCE.Proofs.SearchDefs RCE.Proofs.SearchUnfold

variable {P M : Type} [DecidableEq M]
set_option linter.unusedSectionVars false

/-- What every search below the root keeps: the ply and the move and score reported so far.  It holds across `quiesce`
    and `ab` (`keep_across`: an `Across` instance, not an `AcrossRoot` one, since `abStart` sets the last two); C09's root
    invariant and the C12 proofs pass through it.  Its neighbours: `Frame` (`SearchUnfold`: what one abort check keeps),
    `Kept` (`SearchAcross`: ply, `running` and generated cache moves, across the root loop too). -/
structure Keep (st st' : St M) : Prop where
  ply : st'.ply = st.ply
  bestMove : st'.bestMove = st.bestMove
  bestScore : st'.bestScore = st.bestScore

theorem Keep.refl (st : St M) : Keep st st := ⟨rfl, rfl, rfl⟩
theorem Keep.trans {a b c : St M} (h1 : Keep a b) (h2 : Keep b c) : Keep a c :=
  ⟨h2.ply.trans h1.ply, h2.bestMove.trans h1.bestMove, h2.bestScore.trans h1.bestScore⟩

theorem keep_of_frame {st st' : St M} (h : Frame st st') : Keep st st' := ⟨h.ply, h.bestMove, h.bestScore⟩

theorem Keep.insert (st : St M) (k : UInt64) (e : Entry M) (site : Nat) : Keep st (st.insert k e site) := ⟨rfl, rfl, rfl⟩

theorem keep_across (env : Env) (G : Game P M) : Across env G (Keep (M := M)) where
  refl := Keep.refl
  trans := Keep.trans
  check s := keep_of_frame (abortCheck_frame env s)
  child h := ⟨by show _ - 1 = _; rw [h.ply]; rfl, h.bestMove, h.bestScore⟩
  probe s := by rw [probeSt_eq]; exact ⟨rfl, rfl, rfl⟩
  killers m s := by
    obtain ⟨k, h⟩ := storeKillers_eq G m s
    rw [h]; exact ⟨rfl, rfl, rfl⟩
  insert t _ _ _ _ _ := (keep_of_frame (abortCheck_frame env t)).trans (Keep.insert _ _ _ _)

theorem inR_zero : InR 0 := by rw [inR_iff]; omega

theorem tableScoresOK_empty : TableScoresOK ({} : Table M) := by
  intro k e h
  simp at h

theorem tableScoresOK_insert {st : St M} (h : TableScoresOK st.tt) (k : UInt64) {e : Entry M} (he : InR e.score) (site : Nat) :
    TableScoresOK (st.insert k e site).tt := by
  intro k' e' hk
  rcases getElem?_insert_elim hk with ⟨_, rfl⟩ | hk
  · exact he
  · exact h k' e' hk

theorem probeSt_tableOK (env : Env) {st : St M} (h : TableScoresOK st.tt) : TableScoresOK (probeSt env st).tt := by
  rw [probeSt_eq]
  dsimp only
  split
  · exact tableScoresOK_empty
  · exact h

theorem probe_spec {tt : Table M} (h : TableScoresOK tt) (key : UInt64) (depth : Nat) {a b : Int} (ha : InR a) (hb : InR b) :
    match probe tt key depth a b with
    | .inl s => InR s
    | .inr (a', b') => InR a' ∧ InR b' := by
  unfold probe
  cases he : tt[key]? with
  | none => exact ⟨ha, hb⟩
  | some e =>
    have hs : InR e.score := h key e he
    rw [inR_iff] at ha hb hs
    dsimp only
    by_cases hd : e.depth ≥ depth
    · rw [if_pos hd]
      cases e.bound <;> dsimp only
      · exact hs
      · by_cases hc : max a e.score ≥ b
        · rw [if_pos hc]; exact hs
        · rw [if_neg hc]; exact ⟨by rw [inR_iff]; omega, hb⟩
      · by_cases hc : a ≥ min b e.score
        · rw [if_pos hc]; exact hs
        · rw [if_neg hc]; exact ⟨ha, by rw [inR_iff]; omega⟩
    · rw [if_neg hd]
      exact ⟨ha, hb⟩

/-- C09's contract for the search of a child in the tree below `root`, assumed by induction on the fuel and proved of
    `quiesce` and `ab`: from an `i16` window and an `i16` cache it returns an `i16` value and an `i16` cache (the two
    need each other: the probe reads scores into the window, the loop stores alpha).  The lemmas with the suffix `_B`
    ("bounded") establish it, or the root invariant built on it, for one routine each. -/
def RecB (G : Game P M) (root : P) (rec : P → Int → Int → Nat → St M → Int × St M) : Prop :=
  ∀ c a b d st, Reach G root c → InR a → InR b → st.ply ≤ 255 → TableScoresOK st.tt →
    InR (rec c a b d st).1 ∧ TableScoresOK (rec c a b d st).2.tt

theorem child_B {G : Game P M} {root : P} {rec : P → Int → Int → Nat → St M → Int × St M} (env : Env)
    (hK : ∀ c a b d s, Keep s (rec c a b d s).2) (hrec : RecB G root rec) {p : P} (hr : Reach G root p) {m : M}
    (hm : m ∈ legalMovesOf G p) {alpha beta : Int} {depth : Nat} {pvs updSel : Bool} {st : St M} (ha : InR alpha)
    (hp : st.ply ≤ 254) (ht : TableScoresOK st.tt) {r : Int × St M}
    (hr' : r = pvsChild G rec p m alpha beta depth pvs updSel st) :
    TableScoresOK r.2.tt ∧ r.2.ply ≤ 254 ∧ InR r.1 ∧ MINS < r.1 := by
  have hc := Reach.step hr (mem_legalMovesOf.1 hm).1
  have hlow : ∀ r : Int, InR r → MINS < satNeg r := fun r h => by
    rw [inR_iff] at h; rw [satNeg_eq]; simp only [MINS]; omega
  have hwin : InR (satNeg alpha - 1) := by
    have := ha.2; simp only [MAXS] at this; rw [inR_iff, satNeg_eq]; omega
  have h : TableScoresOK r.2.tt ∧ MINS < r.1 := by
    rw [hr']
    refine pvsChild_ind (S := fun s => s.ply ≤ 255 ∧ TableScoresOK s.tt) (Q := fun r => TableScoresOK r.2.tt ∧ MINS < r.1)
      ⟨Nat.succ_le_succ hp, ht⟩ (fun s hs => ?_) (fun s hs => ?_)
    · have h := hrec (G.play p m) (satNeg alpha - 1) (satNeg alpha) (depth - 1) s hc hwin (satNeg_inR _) hs.1 hs.2
      exact ⟨⟨by rw [(hK _ _ _ _ _).ply]; exact hs.1, h.2⟩, fun _ => ⟨h.2, hlow _ h.1⟩⟩
    · have h := hrec (G.play p m) (satNeg beta) (satNeg alpha) (depth - 1) s hc (satNeg_inR _) (satNeg_inR _) hs.1 hs.2
      exact ⟨h.2, hlow _ h.1⟩
  refine ⟨h.1, ?_, hr' ▸ pvsChild_inR _ _ _ _ _ _ _ _ _ _, h.2⟩
  rw [hr', ((keep_across env G).pvsChild hK G p m alpha beta depth pvs updSel st).ply]
  exact hp

theorem quiesce_B (env : Env) {G : Game P M} {root : P} (he : EvalBoundedFrom G root) :
    ∀ fuel, RecB G root (fun c a b _ => quiesce env G fuel c a b) := by
  intro fuel
  induction fuel with
  | zero => intro p a b _ st _ _ _ _ ht; exact ⟨inR_zero, ht⟩
  | succ fuel ih =>
    intro p a b _ st hr ha hb hp ht
    show InR (quiesce env G (fuel + 1) p a b st).1 ∧ TableScoresOK (quiesce env G (fuel + 1) p a b st).2.tt
    rw [quiesce_succ]
    have hf := abortCheck_frame env st
    have ht1 : TableScoresOK (abortCheck env st).2.tt := hf.tt ▸ ht
    dsimp only
    split
    · exact ⟨inR_zero, ht1⟩
    · rename_i hc
      split
      · exact ⟨hb, ht1⟩
      · have hev : InR (G.eval p) := by
          have := he p hr
          rw [inR_iff]; omega
        rw [qKids_filter]
        refine qKids_ind (Inv := fun _ al s => InR al ∧ s.ply ≤ 254 ∧ TableScoresOK s.tt)
          (Post := fun res => InR (res.val b) ∧ TableScoresOK res.st.tt)
          (fun m hm => (List.mem_filter.1 ((ordered_captures_perm G p _ _).mem_iff.1 hm)).1) ?_
          ⟨ite_pred InR hev ha, by rw [hf.ply]; have := abortCheck_false_ply ((Bool.not_eq_true _).mp hc); omega, ht1⟩
          (fun _ _ hs => ⟨hs.1, hs.2.2⟩)
        intro _ m _ al s r _ hm hs hr'
        have h := child_B env (fun c a b _ s => (keep_across env G).toAcrossQ.quiesce G fuel c a b s) ih hr hm
          hs.1 hs.2.1 hs.2.2 hr'
        exact ⟨fun _ => ⟨hb, h.1⟩, fun _ => ⟨inR_max hs.1 h.2.2.1, h.2.1, h.1⟩⟩

theorem abKids_B (env : Env) {G : Game P M} {root : P} {rec : P → Int → Int → Nat → St M → Int × St M}
    (hK : ∀ c a b d s, Keep s (rec c a b d s).2) (hrec : RecB G root rec) {p : P} (hr : Reach G root p) {depth : Nat}
    {ms : List M} {alpha beta : Int} {best : M} {pvs : Bool} {n : Nat} {st : St M}
    (hms : ∀ m ∈ ms, m ∈ G.allMoves p) (ha : InR alpha) (hp : st.ply ≤ 254) (ht : TableScoresOK st.tt) {out : Loop M}
    (hout : out = abKids env G rec p depth ms alpha beta best pvs n st) :
    TableScoresOK out.st.tt ∧ ∀ a b n' st', out = .done a b n' st' → InR a ∧ st'.ply ≤ 254 := by
  rw [hout, abKids_filter]
  refine abKids_ind (Inv := fun _ al _ _ s => InR al ∧ s.ply ≤ 254 ∧ TableScoresOK s.tt)
    (Post := fun res => TableScoresOK res.st.tt ∧ ∀ a b n' st', res = .done a b n' st' → InR a ∧ st'.ply ≤ 254)
    (fun m hm => mem_legalMovesOf.2 ⟨hms m (List.mem_filter.1 hm).1, (List.mem_filter.1 hm).2⟩) ?_ ⟨ha, hp, ht⟩
    (fun _ _ _ _ hs => ⟨hs.2.2, fun _ _ _ _ heq => by cases heq; exact ⟨hs.1, hs.2.1⟩⟩)
  intro _ m _ al _ pvs' _ s r c _ hm hs hr' hc
  have h := child_B env hK hrec hr hm hs.1 hs.2.1 hs.2.2 hr'
  have hf := abortCheck_frame env r.2
  rw [← hc] at hf
  have ht2 : TableScoresOK c.2.tt := hf.tt ▸ h.1
  refine ⟨fun _ => ⟨ht2, fun _ _ _ _ heq => by cases heq⟩, fun _ _ => ⟨?_, fun _ _ _ _ heq => by cases heq⟩,
    fun _ _ => ⟨inR_max hs.1 h.2.2.1, by rw [hf.ply]; exact h.2.1, ht2⟩⟩
  show TableScoresOK (storeKillers G m _).tt
  rw [storeKillers_tt]
  exact tableScoresOK_insert ht2 _ h.2.2.1 _

theorem ab_B (env : Env) {G : Game P M} {root : P} (he : EvalBoundedFrom G root) : ∀ fuel, RecB G root (ab env G fuel) := by
  intro fuel
  induction fuel with
  | zero => intro p a b d st _ _ _ _ ht; exact ⟨inR_zero, ht⟩
  | succ fuel ih =>
    intro p alpha0 beta0 depth st hr ha hb hp ht
    have hf := abortCheck_frame env st
    refine ab_cases (Q := fun r => InR r.1 ∧ TableScoresOK r.2.tt)
      (fun c hc _ => ⟨inR_zero, by rw [hc, hf.tt]; exact ht⟩) fun c st2 hc hfire _ _ hst2 => ?_
    have ht2 : TableScoresOK st2.tt := by rw [hst2, hc]; exact probeSt_tableOK env (hf.tt ▸ ht)
    have hp2 : st2.ply ≤ 254 := by
      rw [hst2, probeSt_eq]
      show c.2.ply ≤ 254
      rw [hc, hf.ply]
      have := abortCheck_false_ply (hc ▸ hfire)
      omega
    have hpr := probe_spec ht2 (G.key p) depth ha hb
    refine ⟨fun s heq => ?_, fun alpha beta d heq _ => ?_⟩
    · rw [heq] at hpr
      exact ⟨hpr, ht2⟩
    · rw [heq] at hpr
      refine ⟨fun _ => quiesce_B env he (fuel + 1) p alpha beta 0 st2 hr hpr.1 hpr.2 (Nat.le_succ_of_le hp2) ht2,
        fun _ out hout => ?_⟩
      have hk := abKids_B env (fun c a b d s => (keep_across env G).ab fuel c a b d s) ih hr
        (fun m hm => orderMoves_mem.1 hm) hpr.1 hp2 ht2 hout
      cases out with
      | abort s => exact ⟨inR_zero, hk.1⟩
      | cut s => exact ⟨hpr.2, hk.1⟩
      | done a' b' n s =>
        have ha' := hk.2 a' b' n s rfl
        refine ⟨fun _ => ?_, fun _ => ⟨ha'.1, tableScoresOK_insert hk.1 _ ha'.1 _⟩⟩
        split
        · exact ⟨by rw [inR_iff]; simp only [MINS]; omega, hk.1⟩
        · exact ⟨inR_zero, hk.1⟩

structure RootInv (G : Game P M) (root : P) (st : St M) : Prop where
  ply : st.ply = 0
  tbl : TableScoresOK st.tt
  bm : ∀ m, st.bestMove = some m → m ∈ legalMovesOf G root
  bs : ∀ s, st.bestScore = some s → MINS ≤ s

theorem RootInv.of_keep {G : Game P M} {root : P} {st st' : St M} (h : RootInv G root st) (hk : Keep st st')
    (ht : TableScoresOK st'.tt) : RootInv G root st' :=
  ⟨hk.ply.trans h.ply, ht, fun m hm => h.bm m (hk.bestMove ▸ hm), fun s hs => h.bs s (hk.bestScore ▸ hs)⟩

theorem RootInv.check {G : Game P M} {root : P} {st : St M} (h : RootInv G root st) (env : Env) :
    RootInv G root (abortCheck env st).2 :=
  h.of_keep (keep_of_frame (abortCheck_frame env st)) ((abortCheck_frame env st).tt ▸ h.tbl)

/-- Why the move the root loop has in hand may be reported: `best` starts as the first *generated* move, which need not
    be legal; but `rootAbort` reports it only with a score above one already reported, hence above `MINS`
    (`RootInv.bs`), and `rootSave` only after a counted move: in both cases a legal move has raised alpha (every score
    is above `MINS`, `child_B`) and taken its place. -/
def RootJ (G : Game P M) (root : P) (alpha : Int) (best : M) (n : Nat) : Prop :=
  (n = 0 ∧ alpha = MINS) ∨ (MINS < alpha ∧ best ∈ legalMovesOf G root)

theorem rootAbort_B {G : Game P M} {root : P} {st : St M} {alpha : Int} {best : M} {n : Nat}
    (h : RootInv G root st) (ha : InR alpha) (hj : RootJ G root alpha best n) :
    RootInv G root (rootAbort alpha best st) := by
  rcases rootAbort_cases alpha best st with h' | ⟨s, hbs, hgt, h'⟩ <;> rw [h']
  · exact h
  · refine ⟨h.ply, h.tbl, fun m hm => ?_, fun s' hs' => ?_⟩
    · cases hm
      rcases hj with ⟨_, h2⟩ | ⟨_, h2⟩
      · have := h.bs s hbs
        omega
      · exact h2
    · cases hs'
      exact ha.1

theorem rootStep_B (env : Env) {G : Game P M} {root : P} (he : EvalBoundedFrom G root) {depth : Nat} {s : St M}
    {alpha : Int} {best m : M} {n : Nat} {pvs : Bool} (h : RootInv G root s) (ha : InR alpha)
    (hj : RootJ G root alpha best n) (hm : m ∈ legalMovesOf G root) {r : Int × St M} {c : Bool × St M}
    (hr : r = pvsChild G (ab env G 255) root m alpha MAXS depth pvs false s) (hc : c = abortCheck env r.2) :
    RootInv G root c.2 ∧ InR (max alpha r.1) ∧
    RootJ G root (max alpha r.1) (if alpha < r.1 then m else best) (n + 1) := by
  have hK := fun c a b d s => (keep_across env G).ab 255 c a b d s
  have t := child_B env hK (ab_B env he 255) Reach.refl hm ha (by rw [h.ply]; omega) h.tbl hr
  refine ⟨hc ▸ (h.of_keep (hr ▸ (keep_across env G).pvsChild hK G root m alpha MAXS depth pvs false s) t.1).check env,
    inR_max ha t.2.2.1, ?_⟩
  have := ha.1
  split
  · exact .inr ⟨by omega, hm⟩
  · rcases hj with ⟨_, h2⟩ | hj
    · omega
    · exact .inr ⟨by omega, hj.2⟩

theorem rootSave_B (env : Env) {G : Game P M} {root : P} (depth : Nat) {alpha : Int} {best : M} {st : St M}
    (h : RootInv G root st) (ha : InR alpha) (hb : best ∈ legalMovesOf G root) :
    RootInv G root (rootSave env G root depth alpha best st) := by
  unfold rootSave
  have hc := h.check env
  split
  · exact hc
  · refine ⟨hc.ply, tableScoresOK_insert (e := ⟨alpha, depth, .exact, best⟩) hc.tbl (G.key root) ha 1, ?_, ?_⟩
    · intro m hm; cases hm; exact hb
    · intro s hs; cases hs; exact ha.1

/-- the invariant handed to `abStart_ind`, here for C09 and again in `SearchPvNonempty` for C14 -/
def RootL (G : Game P M) (root : P) (alpha : Int) (best : M) (n : Nat) (s : St M) : Prop :=
  RootInv G root s ∧ InR alpha ∧ RootJ G root alpha best n

theorem rootL_init {G : Game P M} {root : P} {st : St M} (h : RootInv G root st) (m0 : M) : RootL G root MINS m0 0 st :=
  ⟨h, by rw [inR_iff]; simp only [MINS]; omega, .inl ⟨rfl, rfl⟩⟩

theorem abStart_B (env : Env) {G : Game P M} {root : P} (he : EvalBoundedFrom G root) (depth : Nat) {st : St M}
    (h : RootInv G root st) : RootInv G root (abStart env G root depth st) := by
  refine abStart_ind (Inv := fun _ => RootL G root) (fun _ => h) (fun m0 _ => rootL_init h m0) ?_ ?_
  · intro _ m _ al best pvs n s r c _ hm hs _ hr hc
    have h' := rootStep_B env he hs.1 hs.2.1 hs.2.2 hm hr hc
    exact ⟨fun _ => rootAbort_B h'.1 hs.2.1 hs.2.2, fun _ => h'⟩
  · intro al best n s _ hs
    split
    · exact hs.1
    · rename_i hn
      exact rootSave_B env depth hs.1 hs.2.1 (hs.2.2.resolve_left fun h0 => hn h0.1).2

theorem rootInv_init (G : Game P M) (p : P) {tt0 : Table M} (ht : TableScoresOK tt0) : RootInv G p ({ tt := tt0 } : St M) :=
  ⟨rfl, ht, fun m hm => (by cases hm), fun s hs => (by cases hs)⟩

/-- the root invariant through the whole search: it holds at the end, and every info line is reported from such a state -/
theorem iterate_B (env : Env) {G : Game P M} {root : P} (he : EvalBoundedFrom G root) (md fuel : Nat) {st : St M}
    (h : RootInv G root st) :
    RootInv G root (iterate env G root md fuel 1 st []).1 ∧
    ∀ i ∈ (iterate env G root md fuel 1 st []).2, Reported env G root (RootInv G root) i :=
  iterate_lines (I := RootInv G root) root md (fun d _ h => (abStart_B env he d h).check env) fuel st h

end RCE.Proofs.SearchBest
