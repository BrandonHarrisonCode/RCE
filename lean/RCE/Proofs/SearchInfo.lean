import RCE.Proofs.SearchAcross
/-! C14: a principal variation read from a table of legal moves is a legal line (`getPv_legal`); under a pure depth limit
    the `info` lines carry the depths 1..n (from the frame relation `Kept` of `SearchAcross`).  The other statements of C14
    are proved under them in `Props/C14.lean`. -/
namespace RCE.Proofs.SearchInfo
open RCE.Search RCE.Proofs.SearchDefs RCE.Proofs.SearchUnfold

variable {P M : Type} [DecidableEq M]
set_option linter.unusedSectionVars false

theorem poll_ply (env : Env) (st : St M) : (poll env st).2.ply = st.ply := rfl
theorem poll_tt (env : Env) (st : St M) : (poll env st).2.tt = st.tt := rfl

theorem getPv_legal (G : Game P M) (tt : Table M) (h : TableMovesOK G tt) :
    ∀ (n : Nat) (p : P), LegalLine G p (getPv G tt n p) := by
  intro n
  induction n with
  | zero => intro p; simp [getPv, LegalLine]
  | succ n ih =>
    intro p
    simp only [getPv]
    split
    · rename_i e he
      split
      · rename_i hl
        refine ⟨?_, ih _⟩
        simp only [legalMovesOf, List.mem_filter]
        exact ⟨h p e he, hl⟩
      · simp [LegalLine]
    · simp [LegalLine]

theorem depth_limit_complete' (env : Env) (G : Game P M) (p : P) (n : Nat) (tt0 : Table M)
    (hu : Unlimited env) (_hn : n ≤ 255) :
    (search env G p (some n) tt0).infos.map (·.depth) = List.range' 1 n := by
  -- at the root and running: kept by every step, and no abort check fires there
  have hI : ∀ d (st : St M), st.ply = 0 ∧ st.running = true →
      (abortCheck env (abStart env G p d st)).2.ply = 0 ∧ (abortCheck env (abStart env G p d st)).2.running = true :=
    fun d st h => ⟨(((kept_across env G).step p d st).ply).trans h.1, (((kept_across env G).step p d st).running hu).trans h.2⟩
  obtain ⟨k, h1, _, h3⟩ := iterate_depths p n hI n { tt := tt0 } ⟨rfl, rfl⟩
  rw [h3 (fun d s hs => by
    have h0 := (kept_across env G).abStart p d s
    rw [(abortCheck_unl env _ hu).2 ((h0.running hu).trans hs.2), h0.ply, hs.1]; rfl) (Nat.le_refl n)] at h1
  exact h1

end RCE.Proofs.SearchInfo
