import RCE.Proofs.SearchUnfold
/-! One rule per loop of the search (`pvsChild`, `qKids`, `abKids`, the root loop inside `abStart`, `iterate`): the
    client gives an invariant of the loop's variables and shows it across one step; the induction is done here, once.
    Then, in namespace `SearchRules`, what a fail-hard value says about a node (`Bnd`) and how that passes from a child
    to its parent through the PVS window logic (`pvsChild_neg`): C11 and the mate theorems both read it there. -/
namespace RCE.Proofs.SearchUnfold
open RCE.Search RCE.Proofs.SearchDefs

variable {P M : Type} [DecidableEq M]
set_option linter.unusedSectionVars false

/-- A child returns the negated value of its last call of `rec`: a call in the full window, or the first call, in the
    null window, if its negated value is not strictly inside `(a, b)`; `S` is what the calls keep. -/
theorem pvsChild_ind {G : Game P M} {rec : P → Int → Int → Nat → St M → Int × St M} {p : P} {m : M} {a b : Int}
    {depth : Nat} {pvs upd : Bool} {st : St M} {S : St M → Prop} {Q : Int × St M → Prop} (hS : S (enter upd st))
    (hnull : ∀ s, S s → S (rec (G.play p m) (satNeg a - 1) (satNeg a) (depth - 1) s).2 ∧
      (¬ (a < satNeg (rec (G.play p m) (satNeg a - 1) (satNeg a) (depth - 1) s).1 ∧
          satNeg (rec (G.play p m) (satNeg a - 1) (satNeg a) (depth - 1) s).1 < b) →
        Q (satNeg (rec (G.play p m) (satNeg a - 1) (satNeg a) (depth - 1) s).1,
           leave (rec (G.play p m) (satNeg a - 1) (satNeg a) (depth - 1) s).2)))
    (hfull : ∀ s, S s →
      Q (satNeg (rec (G.play p m) (satNeg b) (satNeg a) (depth - 1) s).1,
         leave (rec (G.play p m) (satNeg b) (satNeg a) (depth - 1) s).2)) :
    Q (pvsChild G rec p m a b depth pvs upd st) := by
  rw [pvsChild_eq]
  unfold pvsCore
  dsimp only
  split
  · split
    · exact hfull _ (hnull _ hS).1
    · rename_i h
      exact (hnull _ hS).2 (fun g => h (by simp [g.1, g.2]))
  · exact hfull _ hS

theorem pvsChild_inR (G : Game P M) (rec : P → Int → Int → Nat → St M → Int × St M) (p : P) (m : M) (alpha beta : Int)
    (depth : Nat) (pvs updSel : Bool) (st : St M) : InR (pvsChild G rec p m alpha beta depth pvs updSel st).1 :=
  pvsChild_ind (S := fun _ => True) (Q := fun r => InR r.1) trivial
    (fun _ _ => ⟨trivial, fun _ => satNeg_inR _⟩) fun _ _ => satNeg_inR _

/-- The rule for the quiescence loop over the legal moves `ms`.  `Inv done α st`: the loop's variables after the moves
    `done` have been searched, a prefix of `ms` (`done ++ m :: rest`); `r` is what the search of the next move `m`
    returns. -/
theorem qKids_ind {G : Game P M} {rec : P → Int → Int → St M → Int × St M} {p : P} {beta : Int}
    {Inv : List M → Int → St M → Prop} {Post : QLoop M → Prop} {ms : List M} (hms : ∀ m ∈ ms, m ∈ legalMovesOf G p)
    (hstep : ∀ done m rest alpha st r, ms = done ++ m :: rest → m ∈ legalMovesOf G p → Inv done alpha st →
      r = pvsChild G (fun c a b _ => rec c a b) p m alpha beta 0 false true st →
      (beta ≤ r.1 → Post (.cut r.2)) ∧ (r.1 < beta → Inv (done ++ [m]) (max alpha r.1) r.2))
    {alpha : Int} {st : St M} (h0 : Inv [] alpha st) (hdone : ∀ alpha st, Inv ms alpha st → Post (.done alpha st)) :
    Post (qKids G rec p ms alpha beta st) := by
  suffices ∀ (rest done : List M) (alpha : Int) (st : St M), ms = done ++ rest → Inv done alpha st →
      Post (qKids G rec p rest alpha beta st) from this ms [] alpha st rfl h0
  intro rest
  induction rest with
  | nil => intro done alpha st hL h; exact hdone _ _ (by rw [hL, List.append_nil]; exact h)
  | cons m rest ih =>
    intro done alpha st hL h
    have hm := hms m (by rw [hL]; exact List.mem_append_right _ List.mem_cons_self)
    obtain ⟨h1, h2⟩ := hstep done m rest alpha st _ hL hm h rfl
    rw [qKids_cons_legal _ _ _ _ _ _ _ _ (mem_legalMovesOf.1 hm).2]
    dsimp only
    split
    · exact h1 ‹_›
    · exact ih _ _ _ (by rw [hL, List.append_assoc]; rfl) (h2 (by omega))

/-- The rule for the loop of `alpha_beta` over the legal moves `ms`.  `Inv done α best n st`: the loop's variables
    after the moves `done` have been searched, a prefix of `ms` (`done ++ m :: rest`); `r` is what the search of the next
    move `m` returns, `c` the abort check after it. -/
theorem abKids_ind {env : Env} {G : Game P M} {rec : P → Int → Int → Nat → St M → Int × St M} {p : P} {depth : Nat}
    {beta : Int} {Inv : List M → Int → M → Nat → St M → Prop} {Post : Loop M → Prop} {ms : List M}
    (hms : ∀ m ∈ ms, m ∈ legalMovesOf G p)
    (hstep : ∀ done m rest alpha best pvs n st r c, ms = done ++ m :: rest → m ∈ legalMovesOf G p →
      Inv done alpha best n st → r = pvsChild G rec p m alpha beta depth pvs true st → c = abortCheck env r.2 →
      (c.1 = true → Post (.abort c.2)) ∧
      (c.1 = false → beta ≤ r.1 → Post (.cut (storeKillers G m (c.2.insert (G.key p) ⟨r.1, depth, .lower, m⟩ 2)))) ∧
      (c.1 = false → r.1 < beta → Inv (done ++ [m]) (max alpha r.1) (if alpha < r.1 then m else best) (n + 1) c.2))
    {alpha : Int} {best : M} {pvs : Bool} {n : Nat} {st : St M} (h0 : Inv [] alpha best n st)
    (hdone : ∀ alpha best n st, Inv ms alpha best n st → Post (.done alpha best n st)) :
    Post (abKids env G rec p depth ms alpha beta best pvs n st) := by
  suffices ∀ (rest done : List M) (alpha : Int) (best : M) (pvs : Bool) (n : Nat) (st : St M), ms = done ++ rest →
      Inv done alpha best n st → Post (abKids env G rec p depth rest alpha beta best pvs n st) from
    this ms [] alpha best pvs n st rfl h0
  intro rest
  induction rest with
  | nil => intro done alpha best pvs n st hL h; exact hdone _ _ _ _ (by rw [hL, List.append_nil]; exact h)
  | cons m rest ih =>
    intro done alpha best pvs n st hL h
    have hm := hms m (by rw [hL]; exact List.mem_append_right _ List.mem_cons_self)
    obtain ⟨h1, h2, h3⟩ := hstep done m rest alpha best pvs n st _ _ hL hm h rfl rfl
    rw [abKids_cons_legal _ _ _ _ _ _ _ _ _ _ _ _ _ (mem_legalMovesOf.1 hm).2]
    dsimp only
    split
    · exact h1 ‹_›
    · rename_i hc
      have hc' : (abortCheck env (pvsChild G rec p m alpha beta depth pvs true st).2).1 = false := by simpa using hc
      split
      · exact h2 hc' ‹_›
      · exact ih _ _ _ _ _ _ (by rw [hL, List.append_assoc]; rfl) (h3 hc' (by omega))

/-- The exits of a node of `alpha_beta`, in the order of the code: the abort check fires or the position is a draw;
    the cache answers; at depth 0 the quiescence search; otherwise the move loop, which is aborted, cuts, finds no
    legal move, or completes and stores its result.  `c` is the abort check, `st2` the state the probe sees, `d` the
    depth after the check extension, `out` the loop's result. -/
theorem ab_cases {Q : Int × St M → Prop} {env : Env} {G : Game P M} {fuel : Nat} {p : P} {alpha0 beta0 : Int}
    {depth : Nat} {st : St M}
    (h0 : ∀ c, c = abortCheck env st → c.1 = true ∨ G.fifty p = true ∨ G.repeated p = true → Q (0, c.2))
    (h1 : ∀ c st2, c = abortCheck env st → c.1 = false → G.fifty p = false → G.repeated p = false →
      st2 = probeSt env c.2 →
      (∀ s, probe st2.tt (G.key p) depth alpha0 beta0 = .inl s → Q (s, st2)) ∧
      ∀ a b d, probe st2.tt (G.key p) depth alpha0 beta0 = .inr (a, b) →
        d = (if G.inCheck p = true then depth + 1 else depth) →
        (d = 0 → Q (quiesce env G (fuel + 1) p a b st2)) ∧
        (d ≠ 0 → ∀ out, out = abKids env G (ab env G fuel) p d
            (orderMoves G ((st2.tt[G.key p]?).map (·.best)) (st2.killers.getD st2.ply (none, none)) (G.allMoves p))
            a b ((G.allMoves p).headD G.defaultMove) false 0 st2 →
          match out with
          | .abort s => Q (0, s)
          | .cut s => Q (b, s)
          | .done a' best n s =>
            (n = 0 → Q (if G.inCheck p = true then (MINS + s.ply, s) else (0, s))) ∧
            (n ≠ 0 → Q (a', s.insert (G.key p) ⟨a', d, if a' ≤ alpha0 then .upper else .exact, best⟩ 3)))) :
    Q (ab env G (fuel + 1) p alpha0 beta0 depth st) := by
  rw [ab_succ]
  dsimp only
  by_cases hc : (abortCheck env st).1 = true
  · rw [if_pos hc]; exact h0 _ rfl (.inl hc)
  rw [if_neg hc]
  by_cases hf : G.fifty p = true
  · rw [if_pos hf]; exact h0 _ rfl (.inr (.inl hf))
  rw [if_neg hf]
  by_cases hr : G.repeated p = true
  · rw [if_pos hr]; exact h0 _ rfl (.inr (.inr hr))
  rw [if_neg hr]
  obtain ⟨g1, g2⟩ := h1 _ _ rfl (by simpa using hc) (by simpa using hf) (by simpa using hr) rfl
  split
  · exact g1 _ ‹_›
  · rename_i a b hpr
    obtain ⟨g3, g4⟩ := g2 a b _ hpr rfl
    unfold abBody
    dsimp only
    by_cases hd : (if G.inCheck p = true then depth + 1 else depth) = 0
    · rw [if_pos hd]; exact g3 hd
    · rw [if_neg hd]
      have := g4 hd _ rfl
      revert this
      generalize abKids env G (ab env G fuel) p _ _ a b _ false 0 _ = out
      cases out with
      | abort s => exact id
      | cut s => exact id
      | done a' best n s =>
        intro ⟨k1, k2⟩
        dsimp only
        by_cases hn : n = 0
        · rw [if_pos hn]; exact k1 hn
        · rw [if_neg hn]; exact k2 hn

/-- The rule for one iteration.  `Inv done α best n s`: the root loop's variables after the legal moves `done` have
    been searched, a prefix of the legal moves in the order of the search (`done ++ m :: rest`); `r` is what the search
    of the next move `m` returns, `c` the abort check after it; alpha is above `MINS` once the PVS flag is set.  `Q` is
    wanted of the state the iteration leaves; a loop that has counted no move (`n` is the number of legal moves)
    leaves its state as it is, and without a generated move the iteration does nothing. -/
theorem abStart_ind {env : Env} {G : Game P M} {p : P} {depth : Nat} {st : St M}
    {Inv : List M → Int → M → Nat → St M → Prop} {Q : St M → Prop} (hnil : G.allMoves p = [] → Q st)
    (hinit : ∀ m0, m0 ∈ G.allMoves p → Inv [] MINS m0 0 st)
    (hstep : ∀ done m rest alpha best pvs n s r c,
      (orderMoves G ((st.tt[G.key p]?).map (·.best)) (st.killers.getD st.ply (none, none)) (G.allMoves p)).filter
        (G.legal p) = done ++ m :: rest →
      m ∈ legalMovesOf G p → Inv done alpha best n s → MINS ≤ alpha ∧ (pvs = true → MINS < alpha) →
      r = pvsChild G (ab env G 255) p m alpha MAXS depth pvs false s → c = abortCheck env r.2 →
      (c.1 = true → Q (rootAbort alpha best c.2)) ∧
      (c.1 = false → Inv (done ++ [m]) (max alpha r.1) (if alpha < r.1 then m else best) (n + 1) c.2))
    (hend : ∀ alpha best n s, n = (legalMovesOf G p).length →
      Inv ((orderMoves G ((st.tt[G.key p]?).map (·.best)) (st.killers.getD st.ply (none, none)) (G.allMoves p)).filter
        (G.legal p)) alpha best n s → Q (if n = 0 then s else rootSave env G p depth alpha best s)) :
    Q (abStart env G p depth st) := by
  have loop : ∀ (ms done : List M) (alpha : Int) (best : M) (pvs : Bool) (n : Nat) (s : St M),
      (orderMoves G ((st.tt[G.key p]?).map (·.best)) (st.killers.getD st.ply (none, none)) (G.allMoves p)).filter
        (G.legal p) = done ++ ms → n = done.length → Inv done alpha best n s →
      MINS ≤ alpha ∧ (pvs = true → MINS < alpha) →
      match rootKids env G (ab env G 255) p depth ms alpha best pvs n s with
      | .abort s' => Q s'
      | .done a b n' s' => Q (if n' = 0 then s' else rootSave env G p depth a b s') := by
    intro ms
    induction ms with
    | nil =>
      intro done alpha best pvs n s hL hn h _
      rw [List.append_nil] at hL
      exact hend _ _ _ _ (by rw [hn, ← hL, (ordered_legal_perm G p _ _).length_eq]) (hL ▸ h)
    | cons m ms ih =>
      intro done alpha best pvs n s hL hn h hpv
      have hlegal : m ∈ legalMovesOf G p :=
        (ordered_legal_perm G p _ _).mem_iff.1 (by rw [hL]; exact List.mem_append_right _ List.mem_cons_self)
      obtain ⟨h1, h2⟩ := hstep done m ms alpha best pvs n s _ _ hL hlegal h hpv rfl rfl
      rw [rootKids_cons_legal _ _ _ _ _ _ _ _ _ _ _ _ (mem_legalMovesOf.1 hlegal).2]
      dsimp only
      by_cases hc : (abortCheck env (pvsChild G (ab env G 255) p m alpha MAXS depth pvs false s).2).1 = true
      · rw [if_pos hc]; exact h1 hc
      · rw [if_neg hc]
        refine ih _ _ _ _ _ _ (by rw [hL, List.append_assoc]; rfl) (by rw [List.length_append]; simp; omega)
          (h2 (by simpa using hc)) ⟨by omega, fun hp' => ?_⟩
        cases pvs
        · have : alpha < (pvsChild G (ab env G 255) p m alpha MAXS depth false false s).1 := by simpa using hp'
          omega
        · have := hpv.2 rfl
          omega
  rw [abStart_eq]
  split
  · rename_i heq
    exact hnil heq
  · rename_i m0 t heq
    have := loop _ [] MINS m0 false 0 st (by rw [List.nil_append]) rfl (hinit m0 (by rw [heq]; exact List.mem_cons_self))
      ⟨Int.le_refl _, fun h => by cases h⟩
    rw [← rootKids_filter] at this
    revert this
    generalize rootKids env G (ab env G 255) p depth _ MINS m0 false 0 st = out
    cases out with
    | abort s' => exact id
    | done a b n' s' => exact id

/-- the same in a position with a legal move: a completed loop has counted one, so the save runs -/
theorem abStart_ind_ne {env : Env} {G : Game P M} {p : P} {depth : Nat} {st : St M}
    {Inv : List M → Int → M → Nat → St M → Prop} {Q : St M → Prop} (hne : legalMovesOf G p ≠ [])
    (hinit : ∀ m0, Inv [] MINS m0 0 st)
    (hstep : ∀ done m rest alpha best pvs n s r c,
      (orderMoves G ((st.tt[G.key p]?).map (·.best)) (st.killers.getD st.ply (none, none)) (G.allMoves p)).filter
        (G.legal p) = done ++ m :: rest →
      m ∈ legalMovesOf G p → Inv done alpha best n s →
      r = pvsChild G (ab env G 255) p m alpha MAXS depth pvs false s → c = abortCheck env r.2 →
      (c.1 = true → Q (rootAbort alpha best c.2)) ∧
      (c.1 = false → Inv (done ++ [m]) (max alpha r.1) (if alpha < r.1 then m else best) (n + 1) c.2))
    (hsave : ∀ alpha best n s, n ≠ 0 →
      Inv ((orderMoves G ((st.tt[G.key p]?).map (·.best)) (st.killers.getD st.ply (none, none)) (G.allMoves p)).filter
        (G.legal p)) alpha best n s → Q (rootSave env G p depth alpha best s)) :
    Q (abStart env G p depth st) :=
  abStart_ind (fun h => absurd (by unfold legalMovesOf; rw [h]; rfl) hne) (fun m0 _ => hinit m0)
    (fun done m rest alpha best pvs n s r c hL hm h _ => hstep done m rest alpha best pvs n s r c hL hm h)
    fun alpha best n s hn h => by
    have : n ≠ 0 := fun h0 => hne (List.eq_nil_of_length_eq_zero (by omega))
    rw [if_neg this]; exact hsave _ _ _ _ this h

/-- The rule for `iterate`.  `Inv d st infos`: the loop's variables before the iteration of depth `d`; `c` is the abort
    check after that iteration, `Q` is wanted of what `iterate` returns.  The loop ends when the depth limit is passed,
    the fuel is used up, or the abort check fires. -/
theorem iterate_ind {env : Env} {G : Game P M} {p : P} {md : Nat} {Inv : Nat → St M → List (InfoLine M) → Prop}
    {Q : St M × List (InfoLine M) → Prop} {fuel d0 : Nat}
    (hexit : ∀ d st infos, Inv d st infos → md < d ∨ d = d0 + fuel → Q (st, infos))
    (hstep : ∀ d st infos c, Inv d st infos → d ≤ md → c = abortCheck env (abStart env G p d st) →
      (c.1 = true → Q (c.2, infos)) ∧
      (c.1 = false → Inv (d + 1) c.2 (infos ++ [infoLine d c.2 (getPv G c.2.tt d p)])))
    {st : St M} {infos : List (InfoLine M)} (h : Inv d0 st infos) : Q (iterate env G p md fuel d0 st infos) := by
  induction fuel generalizing d0 st infos with
  | zero => exact hexit d0 st infos h (.inr rfl)
  | succ fuel ih =>
    rw [iterate_succ]
    split
    · exact hexit d0 st infos h (.inl ‹_›)
    · rename_i hmd
      obtain ⟨h1, h2⟩ := hstep d0 st infos _ h (Nat.le_of_not_lt hmd) rfl
      dsimp only
      split
      · exact h1 ‹_›
      · rename_i hc
        exact ih (fun d st infos h hx => hexit d st infos h (hx.imp_right fun e => by omega)) (h2 (by simpa using hc))

end RCE.Proofs.SearchUnfold

namespace RCE.Proofs.SearchRules
open RCE.Search RCE.Proofs.SearchDefs RCE.Proofs.SearchUnfold

variable {P M : Type} [DecidableEq M]
set_option linter.unusedSectionVars false

/-- a value strictly inside `i16`: its saturated negation is its negation -/
def Rng (r : Int) : Prop := -32767 < r ∧ r < 32767

theorem probe_of_none {tt : Table M} {k : UInt64} (h : tt[k]? = none) (d : Nat) (a b : Int) :
    probe tt k d a b = .inr (a, b) := by
  unfold probe; rw [h]

theorem rng_zero : Rng 0 := ⟨by omega, by omega⟩

theorem rng_neg {r : Int} (h : Rng r) : Rng (-r) := by unfold Rng at *; omega

theorem satNeg_rng {r : Int} (h : Rng r) : satNeg r = -r := by
  unfold Rng at h; rw [satNeg_eq]; omega

/-- What may be concluded from the value `r` of a fail-hard search in the window `(x, y)`: `A r` if `r` is above the
    lower end (then `r` bounds the true value from below), `B r` if it is below the upper end (then it bounds it from
    above).  `A` is meant to be closed downwards and `B` upwards. -/
def Bnd (A B : Int → Prop) (x y r : Int) : Prop := (x < r → A r) ∧ (r < y → B r)

theorem Bnd.of_both {A B : Int → Prop} {x y r : Int} (ha : A r) (hb : B r) : Bnd A B x y r := ⟨fun _ => ha, fun _ => hb⟩

theorem Bnd.imp {A A' B B' : Int → Prop} {x y r : Int} (h : Bnd A B x y r) (ha : A r → A' r) (hb : B r → B' r) :
    Bnd A' B' x y r := ⟨fun g => ha (h.1 g), fun g => hb (h.2 g)⟩

/-- a value of the null window `(x', y)` that is not strictly inside the wider `(x, y)` speaks for the wider window -/
theorem Bnd.widen {A B : Int → Prop} {x x' y r : Int} (h : Bnd A B x' y r) (hx : x' < y) (hout : ¬ (x < r ∧ r < y)) :
    Bnd A B x y r :=
  ⟨fun g => h.1 (by omega), h.2⟩

/-- the window `(a, b)` tightened to `(a', b')` by bounds that themselves satisfy `A` resp. `B` -/
theorem Bnd.of_tightened {A B : Int → Prop} {a b a' b' r : Int} (h : Bnd A B a' b' r)
    (hA : ∀ s t, A t → s ≤ t → A s) (hB : ∀ s t, B t → t ≤ s → B s)
    (ha : a < a' → A a') (hb : b' < b → B b') (haa : a ≤ a') (hbb : b' ≤ b) : Bnd A B a b r := by
  refine ⟨fun g => ?_, fun g => ?_⟩
  · by_cases h' : a' < r
    · exact h.1 h'
    · exact hA r a' (ha (by omega)) (by omega)
  · by_cases h' : r < b'
    · exact h.2 h'
    · exact hB r b' (hb (by omega)) (by omega)

/-- The parent's reading of the child's value: the child's window is `(−b, satNeg a)`.  Its upper end is `−a` clamped:
    for `a = −32768` the value `32767` is not below it, and `B` of it is asked for. -/
theorem Bnd.neg {A B : Int → Prop} {a b r : Int} (h : Bnd A B (-b) (satNeg a) r) (ha : -32768 ≤ a)
    (hr : r = 32767 → B r) : Bnd (fun s => B (-s)) (fun s => A (-s)) a b (-r) := by
  have hy := satNeg_eq a
  simp only [Bnd, Int.neg_neg]
  exact ⟨fun g => if e : r = 32767 then hr e else h.2 (by omega), fun g => h.1 (by omega)⟩

/-- A child whose every search in a proper window keeps `S` and returns a value `r` that lies in `T`, a range on which
    `satNeg` is negation, satisfies `Bnd A B` for its window (`A`, `B` may speak of the state the search leaves), and
    satisfies `B` if it is `32767` (see `Bnd.neg`): the move's score is `−r` for such an `r`, and satisfies the mirrored
    claim for the parent's window. -/
theorem pvsChild_neg {G : Game P M} {rec : P → Int → Int → Nat → St M → Int × St M} {p : P} {m : M} {a b : Int}
    {depth : Nat} {pvs upd : Bool} {st : St M} {S : St M → Prop} {T : Int → Prop} {A B : St M → Int → Prop}
    (ha : -32768 ≤ a) (hab : a < b) (hb : b ≤ 32767) (hb' : -32767 < b) (hS : S (enter upd st))
    (hT : ∀ r, T r → satNeg r = -r)
    (hrec : ∀ x y s r, -32767 ≤ x → x < y → y ≤ 32767 → S s → r = rec (G.play p m) x y (depth - 1) s →
      S r.2 ∧ T r.1 ∧ (r.1 = 32767 → B r.2 r.1) ∧ Bnd (A r.2) (B r.2) x y r.1) :
    ∃ s r, S s ∧ T r ∧ pvsChild G rec p m a b depth pvs upd st = (-r, leave s) ∧
      Bnd (fun v => B s (-v)) (fun v => A s (-v)) a b (-r) := by
  have hsb : satNeg b = -b := by rw [satNeg_eq]; omega
  have hy := satNeg_eq a
  refine pvsChild_ind (S := S) (Q := fun q => ∃ s r, S s ∧ T r ∧ q = (-r, leave s) ∧
    Bnd (fun v => B s (-v)) (fun v => A s (-v)) a b (-r)) hS ?_ ?_
  · intro s hs
    obtain ⟨h1, h2, h3, h4⟩ := hrec (satNeg a - 1) (satNeg a) s _ (by omega) (by omega) (by omega) hs rfl
    refine ⟨h1, fun hout => ?_⟩
    rw [hT _ h2] at hout ⊢
    exact ⟨_, _, h1, h2, rfl, (h4.widen (x := -b) (by omega) fun g => by omega).neg ha h3⟩
  · intro s hs
    rw [hsb]
    obtain ⟨h1, h2, h3, h4⟩ := hrec (-b) (satNeg a) s _ (by omega) (by omega) (by omega) hs rfl
    rw [hT _ h2]
    exact ⟨_, _, h1, h2, rfl, h4.neg ha h3⟩

end RCE.Proofs.SearchRules
