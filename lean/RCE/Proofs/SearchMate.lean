import RCE.Proofs.SearchMateCommon
/-! # C12 — mate soundness of the cached search (proof file)

The full statements (`tt_mate_sound_statement`, `mate_score_sound_statement`) are FALSE for the model
as written (counterexamples at the end of this file); the `_partial` variants carry two explicit extra
hypotheses: no legal root move mates at once (`NoMateInOne`) and the initial cache holds no score
`≤ −32767` or `≥ 32767` (`StrictScores`). -/
namespace RCE.Proofs.SearchMate
open RCE.Search RCE.Proofs.SearchDefs RCE.Proofs.SearchUnfold RCE.Proofs.SearchBest RCE.Proofs.SearchRules
open RCE.Proofs.SearchMateCommon

set_option linter.unusedSectionVars false

variable {P M : Type} [DecidableEq M]

/-- a lower bound in the win band means a forced mate.  The bands: a mate score is `MINS + ply` or its negation with
    `ply ≤ 255`, so the scores `≥ 32512 = MAXS − 255` (the threshold of `infoLine`) and `≤ −32512` are the mate scores;
    static evaluations stay at `32511` or below in absolute value (`EvalBoundedFrom`), strictly between the bands. -/
abbrev WinA (G : Game P M) (p : P) (r : Int) : Prop := r ≥ 32512 → Won G p
/-- an upper bound in the loss band means being forcibly mated -/
abbrev LossB (G : Game P M) (p : P) (r : Int) : Prop := r ≤ -32512 → Lost G p

/-- the returned value `r` of a node searched with window `(a, b)` -/
abbrev Claim (G : Game P M) (p : P) (a b r : Int) : Prop := Bnd (WinA G p) (LossB G p) a b r

/-- no cached score is `≤ −32767` or `≥ 32767` -/
def StrictScores (tt : Table M) : Prop := ∀ (k : UInt64) (e : Entry M), tt[k]? = some e → -32767 < e.score ∧ e.score < 32767

def TInv (G : Game P M) (tt : Table M) : Prop := MateSound G tt ∧ StrictScores tt

def Mated (G : Game P M) (c : P) : Prop := legalMovesOf G c = [] ∧ G.inCheck c = true

/-- no legal move of `p` mates at once -/
def NoMateInOne (G : Game P M) (p : P) : Prop := ∀ m, m ∈ legalMovesOf G p → ¬ Mated G (G.play p m)

theorem tinv_empty (G : Game P M) : TInv G ({} : Table M) := by
  constructor
  · intro p e h; rw [Std.HashMap.getElem?_empty] at h; cases h
  · intro k e h; rw [Std.HashMap.getElem?_empty] at h; cases h

theorem tableScoresOK_of_strict {tt : Table M} (h : StrictScores tt) : TableScoresOK tt := by
  intro k e he
  have := h k e he
  simp only [MINS, MAXS]
  omega

/-- the cache invariant, entry by entry, in the form the probe lemmas take -/
theorem tinv_entry {G : Game P M} {tt : Table M} (hT : TInv G tt) (p : P) {e : Entry M} (he : tt[G.key p]? = some e) :
    EntryBnd (WinA G p) (LossB G p) e ∧ Rng e.score := by
  have h := hT.1 p e he
  simp only [MAXS, MINS] at h
  exact ⟨⟨fun hb g => h.1 (bound_of_ne_upper hb) (by omega), fun hb g => h.2 (bound_of_ne_lower hb) (by omega)⟩, hT.2 _ e he⟩

theorem tinv_insert {G : Game P M} (hk : KeyMate G) {tt : Table M} (hT : TInv G tt) (p : P) (e : Entry M)
    (h1 : (e.bound = .exact ∨ e.bound = .lower) → e.score ≥ 32512 → Won G p)
    (h2 : (e.bound = .exact ∨ e.bound = .upper) → e.score ≤ -32512 → Lost G p)
    (h3 : Rng e.score) : TInv G (tt.insert (G.key p) e) := by
  constructor
  · intro q e' hq
    rcases getElem?_insert_elim hq with ⟨heq, rfl⟩ | hq
    · have := hk p q heq
      exact ⟨fun hb hs => this.1 (h1 hb (by simp only [MAXS] at hs; omega)),
        fun hb hs => this.2 (h2 hb (by simp only [MINS] at hs; omega))⟩
    · exact hT.1 q e' hq
  · intro k e' hq
    rcases getElem?_insert_elim hq with ⟨_, rfl⟩ | hq
    · exact h3
    · exact hT.2 k e' hq

theorem claim_mono {G : Game P M} {p : P} :
    (∀ s t : Int, WinA G p t → s ≤ t → WinA G p s) ∧ (∀ s t : Int, LossB G p t → t ≤ s → LossB G p s) :=
  ⟨fun s t h hst g => h (by omega), fun s t h hst g => h (by omega)⟩

theorem claim_zero (G : Game P M) (p : P) (a b : Int) : Claim G p a b 0 :=
  Bnd.of_both (fun h => absurd h (by omega)) (fun h => absurd h (by omega))

theorem probe_inr {G : Game P M} {tt : Table M} (hT : TInv G tt) (p : P) (depth : Nat) (a0 b0 a b : Int)
    (hab : a0 < b0) (h : probe tt (G.key p) depth a0 b0 = .inr (a, b)) :
    a0 ≤ a ∧ b ≤ b0 ∧ a < b ∧ (a > a0 → a ≥ 32512 → Won G p) ∧ (b < b0 → b ≤ -32512 → Lost G p) :=
  probe_inr_bnd (A := WinA G p) (B := LossB G p) hab (fun _ he _ => (tinv_entry hT p he).1.bounds) h

theorem mem_orderMoves (G : Game P M) (tm : Option M) (k : Option M × Option M) (ms : List M) (y : M) :
    y ∈ orderMoves G tm k ms ↔ y ∈ ms := orderMoves_mem

theorem abortCheck_tt (env : Env) (st : St M) : (abortCheck env st).2.tt = st.tt := (SearchUnfold.abortCheck_frame env st).tt

theorem abortCheck_frame (env : Env) (st : St M) : Keep st (abortCheck env st).2 :=
  keep_of_frame (SearchUnfold.abortCheck_frame env st)

theorem storeKillers_tt (G : Game P M) (m : M) (st : St M) : (storeKillers G m st).tt = st.tt :=
  SearchUnfold.storeKillers_tt G m st

theorem satNeg_eq {a : Int} (h1 : -32768 < a) (h2 : a ≤ 32767) : satNeg a = -a := by
  rw [SearchUnfold.satNeg_eq]; omega

theorem satNeg_of_rng {r : Int} (h : Rng r) : satNeg r = -r := satNeg_rng h

/-- the upper end of a child window -/
theorem satNeg_alpha {a : Int} (h1 : -32768 ≤ a) (h2 : a ≤ 32766) :
    -32766 ≤ satNeg a ∧ satNeg a ≤ 32767 ∧ (-32768 < a → satNeg a = -a) ∧ (a = -32768 → satNeg a = 32767) := by
  rw [SearchUnfold.satNeg_eq]; omega

/-! ## a node

The specification of a search below the root, `F` plies of fuel left: in a proper window and on a clean cache
it returns a value strictly inside `i16` that is sound in the sense of `Claim`, and a clean cache.  A node at ply 1
must not be mated: it would return `MINS + 1`, which the root reads as `MAXS`, its own β. -/

def RecSpec (G : Game P M) (root : P) (F : Nat) (rec : P → Int → Int → Nat → St M → Int × St M) : Prop :=
  ∀ c x y d st, Reach G root c → -32767 ≤ x → x < y → y ≤ 32767 → 1 ≤ st.ply → st.ply + F ≤ 256 →
    (st.ply = 1 → ¬ Mated G c) → TInv G st.tt →
    Claim G c x y (rec c x y d st).1 ∧ Rng (rec c x y d st).1 ∧ TInv G (rec c x y d st).2.tt ∧
      Keep st (rec c x y d st).2

/-- the search of a child, in the form the rules for a move and for the loops take it -/
theorem child_spec {G : Game P M} {root : P} {F : Nat} {rec} (hrec : RecSpec G root F rec) {p : P} {m : M}
    (hp : Reach G root p) (hm : m ∈ legalMovesOf G p) {k : Nat} (hk : k + 1 + F ≤ 256) (hmate : k = 0 → ¬ Mated G (G.play p m))
    (d : Nat) (x y : Int) (s : St M) (hx : -32767 ≤ x) (hxy : x < y) (hy : y ≤ 32767) (hs : s.ply = k + 1) (hT : TInv G s.tt) :
    (rec (G.play p m) x y d s).2.ply = k + 1 ∧ TInv G (rec (G.play p m) x y d s).2.tt ∧ Rng (rec (G.play p m) x y d s).1 ∧
    (False ∨ Claim G (G.play p m) x y (rec (G.play p m) x y d s).1) := by
  obtain ⟨h1, h2, h3, h4⟩ := hrec (G.play p m) x y d s (Reach.step hp (SearchUnfold.mem_legalMovesOf.1 hm).1) hx hxy hy
    (by omega) (by omega) (fun h => hmate (by omega)) hT
  exact ⟨h4.ply.trans hs, h3, h2, .inr h1⟩

theorem mem_legalMovesOf {G : Game P M} {p : P} {m : M} (h1 : m ∈ G.allMoves p) (h2 : G.legal p m = true) :
    m ∈ legalMovesOf G p := SearchUnfold.mem_legalMovesOf.2 ⟨h1, h2⟩

theorem legal_nil_of_filter {G : Game P M} {p : P} {tm : Option M} {k : Option M × Option M}
    (h : ((orderMoves G tm k (G.allMoves p)).filter (G.legal p)).length = 0) : legalMovesOf G p = [] :=
  ((ordered_legal_perm G p tm k).symm.trans (List.eq_nil_of_length_eq_zero h ▸ List.Perm.refl _)).eq_nil

theorem legal_ne_nil_of_filter {G : Game P M} {p : P} {tm : Option M} {k : Option M × Option M}
    (h : ((orderMoves G tm k (G.allMoves p)).filter (G.legal p)).length ≠ 0) : legalMovesOf G p ≠ [] := fun h2 =>
  h (by rw [(ordered_legal_perm G p tm k).length_eq, h2]; rfl)

theorem mem_ordered_of_legal {G : Game P M} {p : P} {tm : Option M} {k : Option M × Option M} {m : M}
    (h : m ∈ legalMovesOf G p) : m ∈ orderMoves G tm k (G.allMoves p) ∧ G.legal p m = true :=
  ⟨orderMoves_mem.2 (SearchUnfold.mem_legalMovesOf.1 h).1, (SearchUnfold.mem_legalMovesOf.1 h).2⟩

/-- quiescence returns static evaluations and window ends only, and never writes to the cache -/
theorem quiesce_spec {G : Game P M} (root : P) (he : EvalBoundedFrom G root) (env : Env) (fuel : Nat) (c : P) (x y : Int)
    (st : St M) (hc : Reach G root c) (hx : -32767 ≤ x) (hxy : x < y) (hy : y ≤ 32767) (hT : TInv G st.tt) :
    Claim G c x y (quiesce env G fuel c x y st).1 ∧ Rng (quiesce env G fuel c x y st).1 ∧
    TInv G (quiesce env G fuel c x y st).2.tt ∧ Keep st (quiesce env G fuel c x y st).2 := by
  have hq := quiesce_band he env fuel c x y st hc hx hxy hy
  exact ⟨hq.imp (fun (h : _ ≤ (32511 : Int)) g => by omega) (fun (h : (-32511 : Int) ≤ _) g => by omega), hq.rng hx hxy hy,
    by rw [quiesce_tt]; exact hT, (keep_across env G).toAcrossQ.quiesce G _ _ _ _ _⟩

theorem ab_spec {G : Game P M} (hk : KeyMate G) (root : P) (he : EvalBoundedFrom G root) (env : Env) :
    ∀ fuel, RecSpec G root fuel (ab env G fuel) := by
  intro fuel
  induction fuel with
  | zero => intro c x y d st _ _ _ _ _ _ _ hT; exact ⟨claim_zero _ _ _ _, rng_zero, hT, ⟨rfl, rfl, rfl⟩⟩
  | succ fuel ih =>
    intro p a0 b0 depth st hp ha hab hb hply1 hply hmate hT
    suffices h : Claim G p a0 b0 (ab env G (fuel + 1) p a0 b0 depth st).1 ∧ Rng (ab env G (fuel + 1) p a0 b0 depth st).1 ∧
        TInv G (ab env G (fuel + 1) p a0 b0 depth st).2.tt from
      ⟨h.1, h.2.1, h.2.2, (keep_across env G).ab (fuel + 1) p a0 b0 depth st⟩
    have hfr := SearchUnfold.abortCheck_frame env st
    -- the value 0 is outside both bands and claims nothing
    refine ab_cases (Q := fun r => Claim G p a0 b0 r.1 ∧ Rng r.1 ∧ TInv G r.2.tt)
      (fun c hc _ => ⟨claim_zero G p a0 b0, rng_zero, by rw [hc, hfr.tt]; exact hT⟩)
      fun c st2 hc _ _ _ hst2 => ?_
    have hT2 : TInv G st2.tt := by
      rw [hst2, probeSt_eq]; dsimp only; split
      · exact tinv_empty G
      · rw [hc, hfr.tt]; exact hT
    have hply2 : st2.ply = st.ply := by rw [hst2, hc]; exact ((keep_across env G).probe _).ply.trans hfr.ply
    refine ⟨fun s hpr => ?_, fun a b dep hpr _ => ?_⟩
    · -- an answer of the cache: `TInv` says of the entry what the claim says of a value
      obtain ⟨e, h1, _, rfl, _⟩ := probe_eq_inl hab hpr
      exact ⟨probe_inl_bnd hab (fun e he _ => (tinv_entry hT2 p he).1) hpr, (tinv_entry hT2 p h1).2, hT2⟩
    obtain ⟨haa, hbb, hab', hWa, hLb⟩ := probe_inr hT2 p depth a0 b0 a b hab hpr
    -- a claim for the tightened window is a claim for the given one
    have hwide : ∀ r, Claim G p a b r → Claim G p a0 b0 r := fun r h =>
      h.of_tightened claim_mono.1 claim_mono.2 hWa hLb haa hbb
    refine ⟨fun _ => ?_, fun _ out hout => ?_⟩
    · -- quiescence: static evaluations, between the bands
      obtain ⟨h1, h2, h3, _⟩ := quiesce_spec root he env (fuel + 1) p a b st2 hp (by omega) hab' (by omega) hT2
      exact ⟨hwide _ h1, h2, h3⟩
    -- the loop: what it leaves is said in terms of the children's claims
    have hkids : KidsBnd env G p dep st.ply (TInv G) (fun m => WinA G (G.play p m)) (fun m => LossB G (G.play p m)) a b 0
        out := by
      rw [hout]
      exact abKids_bnd (Stop := fun _ => False) (fun _ h => h.elim) (fun _ => claim_mono.1)
        (fun m hm => child_spec ih hp hm (by omega) (fun h => by omega) (dep - 1))
        _ a b _ false 0 st2 (fun m hm => orderMoves_mem.1 hm) (fun m hm => orderMoves_mem.2 (SearchUnfold.mem_legalMovesOf.1 hm).1)
        (by omega) hab' (by omega) hply2 hT2
    cases out with
    | abort st' => exact ⟨claim_zero _ _ _ _, rng_zero, hkids.2.1⟩
    | cut st' =>
      obtain ⟨m, r, c, hm, hbr, hr, hB, _, hTc, rfl⟩ := hkids
      unfold Rng at hr
      -- the child of the move that cuts is lost if the score is in the win band
      have hW : r ≥ 32512 → Won G p := fun g => Won.some m hm (hB (by omega))
      refine ⟨hwide b ⟨fun _ g => hW (by omega), fun h => absurd h (Int.lt_irrefl _)⟩, ⟨by omega, by omega⟩, ?_⟩
      rw [SearchUnfold.storeKillers_tt]
      exact tinv_insert hk hTc p _ (fun _ g => hW g) (fun g => by simp at g) hr
    | done alpha best n st' =>
      obtain ⟨hn, hpl, hT', g1, g2, g3, g4, g5⟩ := hkids
      refine ⟨fun hn0 => ?_, fun hn0 => ?_⟩
      · -- no legal move: mated (not at ply 1, so the score is strictly inside `i16`) or stalemate
        have hnil := hn.1 hn0
        split
        · rename_i hc'
          have : st.ply ≠ 1 := fun h => hmate h ⟨hnil, hc'⟩
          simp only [MINS]
          exact ⟨⟨fun _ h => by omega, fun _ _ => Lost.mate hnil hc'⟩, ⟨by omega, by omega⟩, hT'⟩
        · exact ⟨claim_zero _ _ _ _, rng_zero, hT'⟩
      · have hne : legalMovesOf G p ≠ [] := fun h => hn0 (hn.2 h)
        -- alpha above the window's lower end is the score of the best move; every move scores no more
        have hcl : Claim G p a b alpha := ⟨fun g h => Won.some best (g4 g).1 ((g4 g).2 (by omega)),
          fun _ h => Lost.all hne fun m hm => g5 m hm (by omega)⟩
        have hcl0 := hwide alpha hcl
        have hra : Rng alpha := ⟨g3 hne, by omega⟩
        refine ⟨hcl0, hra, tinv_insert hk hT' p _ (fun hb h => hcl0.1 ?_ h) (fun _ h => hcl.2 g2 h) hra⟩
        by_cases hle : alpha ≤ a0
        · simp [hle] at hb
        · omega

/-- a reported winning mate score is backed by a forced mate after the reported move -/
def RootInv (G : Game P M) (p : P) (st : St M) : Prop :=
  ∀ s m, st.bestScore = some s → st.bestMove = some m → s ≥ 32512 → Lost G (G.play p m)

theorem RootInv.frame {G : Game P M} {p : P} {st st' : St M} (h : RootInv G p st) (hF : Keep st st') :
    RootInv G p st' := by
  intro s m h1 h2 h3
  exact h s m (hF.bestScore ▸ h1) (hF.bestMove ▸ h2) h3

def RootSt (G : Game P M) (p : P) (st : St M) : Prop := TInv G st.tt ∧ st.ply = 0 ∧ RootInv G p st

theorem RootSt.frame {G : Game P M} {p : P} {st st' : St M} (h : RootSt G p st) (hF : Frame st st') : RootSt G p st' :=
  ⟨hF.tt ▸ h.1, hF.ply.trans h.2.1, h.2.2.frame (keep_of_frame hF)⟩

theorem abStart_spec {G : Game P M} (hk : KeyMate G) (p : P) (he : EvalBoundedFrom G p) (hno : NoMateInOne G p)
    (env : Env) (depth : Nat) (st : St M) (h : RootSt G p st) : RootSt G p (abStart env G p depth st) := by
  obtain ⟨hT, hply, hR⟩ := h
  by_cases hne : legalMovesOf G p = []
  · rw [abStart_nolegal env G p depth st hne]
    exact ⟨hT, hply, hR⟩
  -- every move's child is bounded below by the negated alpha, the best move's child above
  rcases abStart_bnd (depth := depth) (Stop := fun _ => False) (I := TInv G) (A := fun m => WinA G (G.play p m))
      (B := fun m => LossB G (G.play p m)) hne (fun _ h => h.elim) (fun _ => claim_mono.1)
      (fun m hm => child_spec (ab_spec hk p he env 255) Reach.refl hm (by omega) (fun _ => hno m hm) (depth - 1)) hply hT
    with ⟨al, best, s, hs, hTs, hks, _, hB, h | ⟨s0, _, h2, h⟩⟩ | ⟨al, best, c, hc, hTc, hkc, hr, hb, hB, hA, h⟩ <;> rw [h]
  · exact RootSt.frame ⟨hTs, hs, hR.frame hks⟩ (SearchUnfold.abortCheck_frame env s)
  · refine ⟨by rw [(SearchUnfold.abortCheck_frame env s).tt]; exact hTs, (SearchUnfold.abortCheck_frame env s).ply.trans hs,
      fun s' m' g1 g2 g3 => ?_⟩
    cases g1; cases g2
    exact (hB (by simp only [MINS]; omega)).2 (by omega)
  · refine ⟨tinv_insert hk hTc p _ (fun _ (g : al ≥ 32512) => Won.some best hb (hB (by omega)))
      (fun _ (g : al ≤ -32512) => Lost.all hne fun m hm => hA m hm (by omega)) hr, hc, fun s' m' g1 g2 g3 => ?_⟩
    cases g1; cases g2
    exact hB (by omega)

theorem search_spec {G : Game P M} (hk : KeyMate G) (p : P) (he : EvalBoundedFrom G p) (hno : NoMateInOne G p)
    (env : Env) (maxDepth : Option Nat) (tt0 : Table M) (hs : MateSound G tt0) (hst : StrictScores tt0) :
    RootSt G p (search env G p maxDepth tt0).st :=
  iterate_ind (Inv := fun _ st _ => RootSt G p st) (Q := fun r => RootSt G p r.1) (fun _ _ _ h _ => h)
    (fun d st infos c h _ hc =>
      have h' : RootSt G p c.2 := hc ▸ (abStart_spec hk p he hno env d st h).frame (SearchUnfold.abortCheck_frame env _)
      ⟨fun _ => h', fun _ => h'⟩)
    (st := ({ tt := tt0 } : St M)) ⟨⟨hs, hst⟩, rfl, fun s m h => by simp at h⟩

/-- C12, first clause, as specified.  FALSE for the model (see `tt_mate_sound_refuted`). -/
def tt_mate_sound_statement : Prop :=
  ∀ (P M : Type) [DecidableEq M] (env : Env) (G : Game P M) (p : P) (maxDepth : Option Nat) (tt0 : Table M),
    KeyMate G → EvalBoundedFrom G p → MateSound G tt0 → MateSound G (search env G p maxDepth tt0).st.tt

/-- C12, second clause, as specified.  FALSE for the model (see `mate_score_sound_refuted`). -/
def mate_score_sound_statement : Prop :=
  ∀ (P M : Type) [DecidableEq M] (env : Env) (G : Game P M) (p : P) (maxDepth : Option Nat) (tt0 : Table M),
    KeyMate G → EvalBoundedFrom G p → MateSound G tt0 → ∀ (s : Int) (m : M),
    (search env G p maxDepth tt0).st.bestScore = some s → s ≥ MAXS - 255 →
    (search env G p maxDepth tt0).st.bestMove = some m → Lost G (G.play p m)

/-- the search keeps the cache mate-sound — provided no legal root move mates at once and the initial
    cache holds no score `≤ −32767` / `≥ 32767` (each of the two alone is not enough) -/
theorem tt_mate_sound_partial (env : Env) (G : Game P M) (p : P) (maxDepth : Option Nat) (tt0 : Table M)
    (hk : KeyMate G) (he : EvalBoundedFrom G p) (hs : MateSound G tt0)
    (hno : NoMateInOne G p) (hst : StrictScores tt0) :
    MateSound G (search env G p maxDepth tt0).st.tt :=
  (search_spec hk p he hno env maxDepth tt0 hs hst).1.1

/-- under the same hypotheses the cache keeps its scores strictly inside `(−32767, 32767)` -/
theorem strict_scores_preserved (env : Env) (G : Game P M) (p : P) (maxDepth : Option Nat) (tt0 : Table M)
    (hk : KeyMate G) (he : EvalBoundedFrom G p) (hs : MateSound G tt0)
    (hno : NoMateInOne G p) (hst : StrictScores tt0) :
    StrictScores (search env G p maxDepth tt0).st.tt :=
  (search_spec hk p he hno env maxDepth tt0 hs hst).1.2

/-- a winning mate score for the root is backed by a forced mate after the chosen move — same provisos -/
theorem mate_score_sound_partial (env : Env) (G : Game P M) (p : P) (maxDepth : Option Nat) (tt0 : Table M)
    (hk : KeyMate G) (he : EvalBoundedFrom G p) (hs : MateSound G tt0)
    (hno : NoMateInOne G p) (hst : StrictScores tt0) (s : Int) (m : M)
    (hb : (search env G p maxDepth tt0).st.bestScore = some s) (hw : s ≥ MAXS - 255)
    (hm : (search env G p maxDepth tt0).st.bestMove = some m) :
    Lost G (G.play p m) :=
  (search_spec hk p he hno env maxDepth tt0 hs hst).2.2 s m hb hm (by simp only [MAXS] at hw; omega)

/-! ## counterexamples to the full statements

Root β is `MAXS = 32767`, which is also the score of a mate in one (`satNeg (MINS + 1)`).  Once the root's α has
reached `MAXS`, the remaining root moves are searched with the null window `(−32768, −32767)`; below it the windows
are EMPTY: `(32767, 32767)`, then `(−32767, −32767)`, ….  In an empty window the fail-hard returns are no bounds at
all: quiescence stands pat with `β = −32767` for any position, its parent sees `32767 ≥ β = 32767`, cuts, and writes
`⟨32767, lower⟩` — "mate in one" — for an arbitrary position (site 2).

Positions and moves are `Fin 8` (a move is its target square), the key is injective, every evaluation is 0. -/
namespace Counter

def mkGame (moves : Fin 8 → List (Fin 8)) (chk : Fin 8 → Bool) : Game (Fin 8) (Fin 8) where
  allMoves := moves
  legal _ _ := true
  play _ m := m
  inCheck := chk
  eval _ := 0
  fifty _ := false
  repeated _ := false
  key p := UInt64.ofNat p.val
  isCapture _ := false
  isPromotion _ := false
  staticScore _ := 0
  defaultMove := 0

theorem key_inj (mv ck) : ∀ p q : Fin 8, (mkGame mv ck).key p = (mkGame mv ck).key q → p = q := by
  show ∀ p q : Fin 8, UInt64.ofNat p.val = UInt64.ofNat q.val → p = q
  decide

theorem keyMate (mv ck) : KeyMate (mkGame mv ck) := keyMate_of_inj _ (key_inj mv ck)

theorem evalBounded (mv ck) (p : Fin 8) : EvalBoundedFrom (mkGame mv ck) p :=
  evalBounded_of_forall (fun _ => ⟨by show (-32511 : Int) ≤ 0; decide, by show (0 : Int) ≤ 32511; decide⟩) p

theorem legalMoves_eq (mv ck) (p : Fin 8) : legalMovesOf (mkGame mv ck) p = mv p := by
  show (mv p).filter (fun _ => true) = mv p
  simp

/-- 0 = root: 1 (mates at once), 2;  2 → 3 → 4;  4 has no move and is not in check -/
def G1 : Game (Fin 8) (Fin 8) :=
  mkGame (fun p => match p with | 0 => [1, 2] | 2 => [3] | 3 => [4] | _ => []) (fun p => p == 1)

theorem G1_not_won_3 : ¬ Won G1 3 := not_won G1 2 (by decide) (by decide)

/-- depth 3, empty cache: the final cache says "position 3 is won (lower bound 32767)" -/
def r1 := search {} G1 0 (some 3) {}

/--
info: [(0, 32767, 3, RCE.Search.Bound.exact, 1),
 (2, -32767, 2, RCE.Search.Bound.lower, 3),
 (3, 32767, 1, RCE.Search.Bound.lower, 4)]
-/
#guard_msgs in
#eval r1.st.tt.toList.map fun (k, e) => (k, e.score, e.depth, e.bound, e.best)

/-- `tt_mate_sound_statement` fails, given the cache entry displayed by the `#eval` above -/
theorem tt_mate_sound_refuted
    (hrun : ∃ e, r1.st.tt[G1.key 3]? = some e ∧ e.bound = .lower ∧ e.score = 32767) :
    ¬ tt_mate_sound_statement := by
  intro h
  obtain ⟨e, h1, h2, h3⟩ := hrun
  have hs := h (Fin 8) (Fin 8) {} G1 0 (some 3) {} (keyMate _ _) (evalBounded _ _ _) (tinv_empty G1).1
  exact G1_not_won_3 ((hs 3 e h1).1 (Or.inr h2) (by rw [h3]; decide))

/-- info: true -/
#guard_msgs in
#eval (match r1.st.tt[G1.key 3]? with | some e => e.bound == Bound.lower && e.score == 32767 | none => false)

/-- 0 = root: 1, 2;  1 → 5 → 6 with 6 mated (so 1 is lost, in two);  2 → 3 (in check) → 4 (stalemate) -/
def G2 : Game (Fin 8) (Fin 8) :=
  mkGame (fun p => match p with | 0 => [1, 2] | 1 => [5] | 5 => [6] | 2 => [3] | 3 => [4] | _ => [])
    (fun p => p == 6 || p == 3)

/-- the initial cache: the (truly) lost position 1 with the score −32767, exact, depth 1 -/
def tt2 : Table (Fin 8) := ({} : Table (Fin 8)).insert (G2.key 1) ⟨-32767, 1, .exact, 5⟩

theorem G2_lost_1 : Lost G2 1 := lostWithin_sound G2 1 1 (by decide)

theorem G2_mateSound : MateSound G2 tt2 := by
  intro p e h
  rcases getElem?_insert_elim h with ⟨heq, rfl⟩ | h
  · cases key_inj _ _ _ _ heq
    exact ⟨fun _ hs => absurd hs (by decide), fun _ _ => G2_lost_1⟩
  · simp at h

theorem G2_noMateInOne : NoMateInOne G2 0 := by unfold NoMateInOne Mated; decide

theorem G2_not_lost_2 : ¬ Lost G2 2 := not_lost G2 2 (by decide) (by decide)

/-- depth 3: iteration 2 plants `⟨32767, lower, depth 1⟩` for position 3 (the check extension makes it deep enough
    to be used), iteration 3 reads it in an ordinary window: "move 2 mates" -/
def r2 := search {} G2 0 (some 3) tt2

/-- info: (some 32767, some 2) -/
#guard_msgs in
#eval (r2.st.bestScore, r2.st.bestMove)

/-- `mate_score_sound_statement` fails, given the result displayed by the `#eval` above -/
theorem mate_score_sound_refuted (hrun : r2.st.bestScore = some 32767 ∧ r2.st.bestMove = some 2) :
    ¬ mate_score_sound_statement := by
  intro h
  exact G2_not_lost_2 (h (Fin 8) (Fin 8) {} G2 0 (some 3) tt2 (keyMate _ _) (evalBounded _ _ _) G2_mateSound
    32767 2 hrun.1 (by decide) hrun.2)

/-- the first counterexample has an empty initial cache (`StrictScores` holds, `NoMateInOne` fails); the second has
    no mate in one (`NoMateInOne` holds, `StrictScores` fails): neither proviso of the `_partial` theorems can be dropped -/
theorem G1_strict : StrictScores ({} : Table (Fin 8)) := (tinv_empty G1).2

end Counter

end RCE.Proofs.SearchMate
