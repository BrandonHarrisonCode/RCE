import RCE.Proofs.SearchMateTwo
/-! # "Once a 2-ply iteration has completed, the chosen move never allows a mate in one when some legal move avoids it" — with the cache on

**The clean statement is false** (`avoidable_mate_avoided_clean_statement`, refuted by `Counter.avoid_clean_refuted`).
Mate scores are relative to the ply of the node (`MINS + ply`) and cache entries are stored unadjusted, so an entry
written for a position at one ply and read for the same position at another ply misstates the distance to mate — in
both directions harmfully:
* stored at ply 1 (`32766`, the opponent mates at ply 2), read at ply 3 (truth `32764`): a move that loses one move later
  scores `−32766` as well, and the blunder searched before it keeps its place (`Counter.G5`, fresh cache, depth 2);
* stored at ply 5 (`32762`), read at ply 1: the blunder scores `−32762`, better than a move that is mated at ply 4
  (`Counter.G6`, fresh cache, depths 1–3).

**What is proved** (`avoidable_mate_avoided`, and `avoidable_mate_avoided_again` for any number of earlier searches of
the position, completed or interrupted): the statement under `PlyKeys`, `MatedKeysFresh2`, `NoDrawAtMate2`, together with
`NoMateInOne` (the case of the first clause, where the windows degenerate) and the existence of a safe move.  What each is
for, and the counterexample that shows it indispensable: header of `Props/C12.lean`.

How it goes.  With no mate in one at the root all windows are proper and the soundness development of
`SearchMate.lean` applies to every node (`TInv` is kept).  On top of it a distance-exact `Bnd` contract holds of every
search below the root that is not interrupted (`Low2`, `High2`, `ab_spec2`): a value `≥ 32766` inside the window is
returned only by a ply-1 node whose side to move mates at once, a value `≤ −32766` only by a mated node at ply 2; a mated
grandchild returns `−32766`, and an unsafe root child searched with depth `≥ 1` returns `≥ 32766` or `≥ β` — together
with the cache invariant `AInv2` (`Dist`: entries with these scores say the same; `UK`: an entry for an unsafe root
child is a lower bound or says `≥ 32766`; `NME2`: nothing is stored for a mated grandchild; `ainv2_entry` reads an entry
as a contract).  The loops are those of `SearchRules` (`abKids_bnd`, `abStart_bnd`): `ab_spec2` says at each exit of a
node what the bounds of its children mean for it.  At the root (`abStart_spec2`): a safe move's child is bounded below
by the negated alpha, so alpha is `> −32766`; the best move's child is bounded above by it, so at depth `≥ 2` it has no
mate in one: the best move of a completed iteration of depth `≥ 2` is safe; an interrupted later iteration replaces it
only by a move with a larger score, which is safe again (`SafeSt` stays).  `search_spec2` puts the iterations together
(`SearchMate.search_rule`, stated in `SearchMateTwo.lean`, which proves the second clause along the same lines). -/
namespace RCE.Proofs.SearchMateAvoid
open RCE.Search RCE.Proofs.SearchDefs RCE.Proofs.SearchUnfold RCE.Proofs.SearchBest RCE.Proofs.SearchAbort
open RCE.Proofs.SearchMate (Mated TInv NoMateInOne)
open RCE.Proofs.SearchRules
open RCE.Proofs.SearchMateCommon (keyMate_of_inj keyMate_of_solver evalBounded_of_forall refute_best monoClock_default)
open RCE.Proofs.SearchMateOne (Mates)
open RCE.Proofs.SearchMateTwo (not_draw)

variable {P M : Type} [DecidableEq M]
set_option linter.unusedSectionVars false

/-- the side to move in `q` has a mate in one -/
def HasMate1 (G : Game P M) (q : P) : Prop := ∃ r, Mates G q r

/-- after `m` the opponent has a mate in one -/
def AllowsMateInOne (G : Game P M) (p : P) (m : M) : Prop := ∃ r, Mates G (G.play p m) r

/-- a legal root move after which the opponent has no mate in one -/
def Safe (G : Game P M) (p : P) (m : M) : Prop := m ∈ legalMovesOf G p ∧ ¬ AllowsMateInOne G p m

/-- the positions of the search tree with their ply: reached from the root by exactly `k` legal moves -/
inductive At (G : Game P M) (p : P) : Nat → P → Prop
  | root : At G p 0 p
  | step {k : Nat} {q : P} {m : M} : At G p k q → m ∈ legalMovesOf G q → At G p (k + 1) (G.play q m)

/-- a node that `alpha_beta` declares a draw before it probes the cache -/
def Drawn (G : Game P M) (q : P) : Prop := G.fifty q = true ∨ G.repeated q = true

theorem At.reach {G : Game P M} {p : P} {k : Nat} {q : P} (h : At G p k q) : Reach G p q := by
  induction h with
  | root => exact Reach.refl
  | step _ hm ih => exact Reach.step ih (List.mem_filter.1 hm).1

theorem At.zero {G : Game P M} {p : P} {q : P} (h : At G p 0 q) : q = p := by
  cases h; rfl

theorem At.one {G : Game P M} {p : P} {q : P} (h : At G p 1 q) : ∃ u, u ∈ legalMovesOf G p ∧ q = G.play p u := by
  cases h with
  | step h0 hm =>
    cases h0
    exact ⟨_, hm, rfl⟩

/-- the key of a root child in which the opponent mates at once is carried, among the nodes of the tree that reach
    their cache probe, only by nodes at ply 1 in which the side to move mates at once -/
def PlyKeys (G : Game P M) (p : P) : Prop :=
  ∀ u, u ∈ legalMovesOf G p → AllowsMateInOne G p u → ∀ k q, At G p k q → G.key q = G.key (G.play p u) →
    (k = 1 ∧ HasMate1 G q) ∨ (k ≠ 0 ∧ Drawn G q)

/-- no writing node of the tree (the root included) carries the key of a mated grandchild of the root -/
def MatedKeysFresh2 (G : Game P M) (p : P) : Prop :=
  ∀ u r, u ∈ legalMovesOf G p → Mates G (G.play p u) r → ∀ k q, At G p k q →
    G.key q = G.key (G.play (G.play p u) r) → legalMovesOf G q = [] ∨ (k ≠ 0 ∧ Drawn G q)

/-- neither a root child in which the opponent mates at once nor the mated grandchild is declared a draw -/
def NoDrawAtMate2 (G : Game P M) (p : P) : Prop :=
  ∀ u r, u ∈ legalMovesOf G p → Mates G (G.play p u) r →
    ¬ Drawn G (G.play p u) ∧ ¬ Drawn G (G.play (G.play p u) r)

theorem matedKeysFresh2_of_inj {G : Game P M} {p : P} (h : ∀ q q', G.key q = G.key q' → q = q') : MatedKeysFresh2 G p := by
  intro u r _ hr k q _ hkey
  cases h _ _ hkey
  exact .inl hr.2.1

theorem At.rank_eq {G : Game P M} {p : P} (rk : P → Nat)
    (hstep : ∀ q m, m ∈ legalMovesOf G q → rk (G.play q m) = rk q + 1) {k : Nat} {q : P} (h : At G p k q) :
    rk q = rk p + k := by
  induction h with
  | root => rfl
  | step _ hm ih => rw [hstep _ _ hm, ih]; rfl

/-- `PlyKeys` where every root move that allows a mate in one leads to the same position `c`, which shares its key
    with no other position, in a game whose positions have a rank that every move raises by one: `c` occurs at ply 1
    only -/
theorem plyKeys_single {G : Game P M} {p c : P} (hu : ∀ u ∈ legalMovesOf G p, AllowsMateInOne G p u → G.play p u = c)
    (hkey : ∀ q, G.key q = G.key c → q = c) (rk : P → Nat)
    (hstep : ∀ q m, m ∈ legalMovesOf G q → rk (G.play q m) = rk q + 1) (hc : rk c = rk p + 1) (hm : HasMate1 G c) :
    PlyKeys G p := by
  intro u hu' hun k q hq hk
  rw [hu u hu' hun] at hk
  cases hkey q hk
  have := hq.rank_eq rk hstep
  exact .inl ⟨by omega, hm⟩

/-- `NoDrawAtMate2` for a game that declares no draws -/
theorem noDrawAtMate2_of_never {G : Game P M} (hf : ∀ q, G.fifty q = false) (hr : ∀ q, G.repeated q = false) (p : P) :
    NoDrawAtMate2 G p :=
  fun _ _ _ _ => ⟨not_draw (hf _) (hr _), not_draw (hf _) (hr _)⟩

/-- the mate distances of the two extreme scores (`32766 = −(MINS + 2)`: seen from ply 1, the opponent is mated at
    ply 2): `≥ 32766` (exact or lower bound) only for a ply-1 node whose side to move mates at once; `≤ −32766` (exact or
    upper bound) never -/
def Dist (G : Game P M) (p : P) (tt : Table M) : Prop :=
  ∀ k q e, At G p k q → ¬ Drawn G q → tt[G.key q]? = some e →
    ((e.bound = .exact ∨ e.bound = .lower) → e.score ≥ 32766 → k = 1 ∧ HasMate1 G q) ∧
    ((e.bound = .exact ∨ e.bound = .upper) → e.score ≤ -32766 → False)

/-- the unsafe children's keys: an entry for a root child in which the opponent mates at once says so, or is a lower
    bound -/
def UK (G : Game P M) (p : P) (tt : Table M) : Prop :=
  ∀ u, u ∈ legalMovesOf G p → AllowsMateInOne G p u → ∀ e, tt[G.key (G.play p u)]? = some e →
    e.bound = .lower ∨ e.score ≥ 32766

/-- no mated entry, at ply 2 (`SearchMateOne.NoMatedEntry` one ply deeper): nothing is stored for a mated grandchild of
    the root -/
def NME2 (G : Game P M) (p : P) (tt : Table M) : Prop :=
  ∀ u r, u ∈ legalMovesOf G p → Mates G (G.play p u) r → tt[G.key (G.play (G.play p u) r)]? = none

/-- the part of the cache invariant that is this clause's own -/
structure AInv2 (G : Game P M) (p : P) (tt : Table M) : Prop where
  dist : Dist G p tt
  uk : UK G p tt
  nme : NME2 G p tt

/-- the cache invariant of `avoidable_mate_avoided`: clean in the sense of `SearchMate.lean`, plus `AInv2` -/
def AvoidInv (G : Game P M) (p : P) (tt : Table M) : Prop := TInv G tt ∧ AInv2 G p tt

theorem ainv2_empty (G : Game P M) (p : P) : AInv2 G p ({} : Table M) := by
  have h0 : ∀ (k : UInt64) (e : Entry M), ({} : Table M)[k]? ≠ some e := fun k e h => by
    rw [Std.HashMap.getElem?_empty] at h; cases h
  exact ⟨fun _ _ e _ _ h => absurd h (h0 _ e), fun _ _ _ e h => absurd h (h0 _ e), fun _ _ _ _ => Std.HashMap.getElem?_empty⟩

theorem avoidInv_empty (G : Game P M) (p : P) : AvoidInv G p ({} : Table M) :=
  ⟨SearchMate.tinv_empty G, ainv2_empty G p⟩

theorem ainv2_insert {G : Game P M} {p : P} (hP : PlyKeys G p) (hK : MatedKeysFresh2 G p) {tt : Table M}
    (h : AInv2 G p tt) {k0 : Nat} {q0 : P} (hq0 : At G p k0 q0) (hnd : k0 ≠ 0 → ¬ Drawn G q0)
    (hleg : legalMovesOf G q0 ≠ []) (e : Entry M)
    (h1 : (e.bound = .exact ∨ e.bound = .lower) → e.score ≥ 32766 → k0 = 1 ∧ HasMate1 G q0)
    (h2 : (e.bound = .exact ∨ e.bound = .upper) → e.score ≤ -32766 → False)
    (h3 : k0 = 1 → HasMate1 G q0 → e.bound = .lower ∨ e.score ≥ 32766) :
    AInv2 G p (tt.insert (G.key q0) e) := by
  refine ⟨fun k q e' hq hndq he' => ?_, fun u hu hun e' he' => ?_, fun u r hu hr => ?_⟩
  · rcases getElem?_insert_elim he' with ⟨heq', rfl⟩ | he'
    · refine ⟨fun hb hs => ?_, h2⟩
      obtain ⟨hk0, hm0⟩ := h1 hb hs
      subst hk0
      obtain ⟨u, hu, rfl⟩ := hq0.one
      exact (hP u hu hm0 k q hq heq'.symm).resolve_right fun h => hndq h.2
    · exact h.dist k q e' hq hndq he'
  · rcases getElem?_insert_elim he' with ⟨heq', rfl⟩ | he'
    · rcases hP u hu hun k0 q0 hq0 heq' with hh | hh
      · exact h3 hh.1 hh.2
      · exact absurd hh.2 (hnd hh.1)
    · exact h.uk u hu hun e' he'
  · refine Option.eq_none_iff_forall_ne_some.2 fun e' he' => ?_
    rcases getElem?_insert_elim he' with ⟨heq', _⟩ | he'
    · rcases hK u r hu hr k0 q0 hq0 heq' with hh | hh
      · exact hleg hh
      · exact hnd hh.1 hh.2
    · rw [h.nme u r hu hr] at he'; cases he'

/-! ## what a returned value must satisfy

The value returned for the node `q` at ply `k`, asked for depth `d`, is specified as a `Bnd` contract, unless the
search was interrupted.  As a lower bound (`Low2`) it is `≥ 32766` only at ply 1 with a mate in one, and for a mated
node at ply 2 that is not declared a draw it is no more than the mate score `−32766`.  As an upper bound (`High2`) it is
`≤ −32766` only for a mated node at ply 2, and for a ply-1 node in which the side to move mates at once, searched at
least one ply deep, it is `≥ 32766`. -/

def Low2 (G : Game P M) (k : Nat) (q : P) (r : Int) : Prop :=
  (r ≥ 32766 → k = 1 ∧ HasMate1 G q) ∧ (k = 2 → Mated G q → ¬ Drawn G q → r ≤ -32766)

def High2 (G : Game P M) (k : Nat) (q : P) (d : Nat) (r : Int) : Prop :=
  (r ≤ -32766 → k = 2 ∧ Mated G q) ∧ (k = 1 → HasMate1 G q → (1 ≤ d ∨ G.inCheck q = true) → r ≥ 32766)

/-- the value 0 claims nothing, except of a mated node at ply 2 that is not declared a draw and of a ply-1 node with a
    mate in one -/
theorem bnd2_zero {G : Game P M} {k : Nat} {q : P} {d : Nat} (x y : Int)
    (h : 2 < k ∨ (¬ (k = 2 ∧ Mated G q ∧ ¬ Drawn G q) ∧ ¬ (k = 1 ∧ HasMate1 G q))) :
    Bnd (Low2 G k q) (High2 G k q d) x y 0 :=
  .of_both
    ⟨fun g => absurd g (by omega), fun h1 h2 h3 => h.elim (fun h => by omega) fun h => absurd ⟨h1, h2, h3⟩ h.1⟩
    ⟨fun g => absurd g (by omega), fun h1 h2 _ => h.elim (fun h => by omega) fun h => absurd ⟨h1, h2⟩ h.2⟩

/-- the mate score of its ply satisfies the contract of a mated node from ply 2 on: it is `−32766` at ply 2 and above it
    further down -/
theorem bnd2_mated {G : Game P M} {k : Nat} {q : P} {d : Nat} (x y : Int) (hk : 2 ≤ k) (hk' : k ≤ 255) (hM : Mated G q) :
    Bnd (Low2 G k q) (High2 G k q d) x y (MINS + (k : Int)) := by
  simp only [MINS]
  exact .of_both ⟨fun g => by omega, fun _ _ _ => by omega⟩ ⟨fun g => ⟨by omega, hM⟩, fun h => by omega⟩

theorem low2_anti {G : Game P M} {k : Nat} {q : P} (v w : Int) (h : Low2 G k q w) (hvw : v ≤ w) : Low2 G k q v :=
  ⟨fun g => h.1 (by omega), fun h1 h2 h3 => by have := h.2 h1 h2 h3; omega⟩

theorem high2_mono {G : Game P M} {k : Nat} {q : P} {d : Nat} (v w : Int) (h : High2 G k q d w) (hvw : w ≤ v) :
    High2 G k q d v :=
  ⟨fun g => h.1 (by omega), fun h1 h2 h3 => by have := h.2 h1 h2 h3; omega⟩

theorem At.two {G : Game P M} {p : P} {q : P} (h : At G p 2 q) :
    ∃ u r, u ∈ legalMovesOf G p ∧ r ∈ legalMovesOf G (G.play p u) ∧ q = G.play (G.play p u) r := by
  cases h with
  | step h1 hr =>
    obtain ⟨u, hu, rfl⟩ := h1.one
    exact ⟨u, _, hu, hr, rfl⟩

theorem not_mated_ply1 {G : Game P M} {root : P} (hno : NoMateInOne G root) {c : P} (h : At G root 1 c) : ¬ Mated G c := by
  obtain ⟨u, hu, rfl⟩ := h.one
  exact hno u hu

/-- neither a ply-1 node in which `r` mates nor the mated node after `r` is declared a draw -/
theorem nodraw_of_mates {G : Game P M} {root : P} (hD : NoDrawAtMate2 G root) {c : P} (h : At G root 1 c) {r : M}
    (hr : Mates G c r) : ¬ Drawn G c ∧ ¬ Drawn G (G.play c r) := by
  obtain ⟨u, hu, rfl⟩ := h.one
  exact hD u r hu hr

theorem ainv2_entry {G : Game P M} {root : P} {tt : Table M} (hA : AInv2 G root tt) {k : Nat} {q : P}
    (hq : At G root k q) (hnd : ¬ Drawn G q) {e : Entry M} (he : tt[G.key q]? = some e) (d : Nat) :
    EntryBnd (Low2 G k q) (High2 G k q d) e := by
  have hd := hA.dist k q e hq hnd he
  refine ⟨fun hb => ⟨fun g => hd.1 (bound_of_ne_upper hb) g, fun hk hM _ => ?_⟩,
    fun hb => ⟨fun g => (hd.2 (bound_of_ne_lower hb) g).elim, fun hk hm _ => ?_⟩⟩
  · -- nothing is stored for a mated node at ply 2
    subst hk
    obtain ⟨u, r, hu, hr, rfl⟩ := hq.two
    rw [hA.nme u r hu ⟨hr, hM⟩] at he; cases he
  · subst hk
    obtain ⟨u, hu, rfl⟩ := hq.one
    exact (hA.uk u hu hm e he).resolve_left hb

/-- A move whose child is bounded above by `−r` with `r ≥ 32766` mates: that child is a mated node at ply 2. -/
theorem mates_of_high2 {G : Game P M} {k : Nat} {p : P} {m : M} (hm : m ∈ legalMovesOf G p) {d : Nat} {r : Int}
    (h : High2 G (k + 1) (G.play p m) d (-r)) (hr : r ≥ 32766) : k = 1 ∧ HasMate1 G p := by
  have := h.1 (by omega)
  exact ⟨by omega, m, hm, this.2⟩

/-- Every search below the root keeps the cache clean (`TInv`, by the soundness development), keeps `AInv2`, and returns
    a value that satisfies the contract, unless it was interrupted. -/
theorem ab_spec2 {env : Env} (hc : MonoClock env) (hoff : env.cacheOff = false) {G : Game P M} (hk : KeyMate G) (root : P)
    (he : EvalBoundedFrom G root) (hno : NoMateInOne G root) (hP : PlyKeys G root) (hK : MatedKeysFresh2 G root)
    (hD : NoDrawAtMate2 G root) :
    ∀ fuel, RecBnd env (fun k c => At G root k c ∧ 1 ≤ k) (fun tt => TInv G tt ∧ AInv2 G root tt)
      (fun c k _ => Low2 G k c) (fun c k d => High2 G k c d) fuel (ab env G fuel) := by
  intro fuel
  induction fuel with
  | zero =>
    intro k c _ hply d x y st _ _ _ hst hI
    exact ⟨hst, hI, rng_zero, .inr (bnd2_zero _ _ (.inl (by omega)))⟩
  | succ fuel ih =>
    intro k p ⟨hp, hply1⟩ hply depth a0 b0 st ha hab hb hst ⟨hT, hA⟩
    subst hst
    -- the ply, the clean cache and the range of the value: the soundness development, applied to this very call
    suffices h : AInv2 G root (ab env G (fuel + 1) p a0 b0 depth st).2.tt ∧
        (Interrupted env (ab env G (fuel + 1) p a0 b0 depth st).2 ∨
          Bnd (Low2 G st.ply p) (High2 G st.ply p depth) a0 b0 (ab env G (fuel + 1) p a0 b0 depth st).1) by
      obtain ⟨_, hrng, hTf, hkf⟩ := SearchMate.ab_spec hk root he env (fuel + 1) p a0 b0 depth st hp.reach ha hab hb hply1
        (Nat.le_of_eq hply) (fun h => not_mated_ply1 hno (h ▸ hp)) hT
      exact ⟨hkf.ply, ⟨hTf, h.1⟩, hrng, h.2⟩
    have hf := abortCheck_frame env st
    have hT1 : TInv G (abortCheck env st).2.tt := hf.tt ▸ hT
    have hA1 : AInv2 G root (abortCheck env st).2.tt := hf.tt ▸ hA
    refine ab_cases (Q := fun r => AInv2 G root r.2.tt ∧
        (Interrupted env r.2 ∨ Bnd (Low2 G st.ply p) (High2 G st.ply p depth) a0 b0 r.1))
      (fun c hcc h => ?_) (fun c st1 hcc hab1 hfif hrep hst1 => ?_)
    · -- the value 0, nothing written
      subst hcc
      refine ⟨hA1, ?_⟩
      rcases h with hab1 | hdr
      · -- an abort check that fires below the ply cap is an interruption; at the cap the node is of neither kind
        by_cases h255 : st.ply < 255
        · exact .inl (abortCheck_interrupts' env st h255 hab1)
        · exact .inr (bnd2_zero _ _ (.inl (by omega)))
      · -- a node declared a draw is of neither kind (`NoDrawAtMate2`)
        exact .inr (bnd2_zero _ _ (.inr ⟨fun g => g.2.2 hdr, fun ⟨g1, _, gr⟩ => (nodraw_of_mates hD (g1 ▸ hp) gr).1 hdr⟩))
    subst hcc
    have hnd : ¬ Drawn G p := not_draw hfif hrep
    have h255 : st.ply < 255 := by have := abortCheck_false_ply hab1; omega
    rw [show probeSt env (abortCheck env st).2 = (abortCheck env st).2 by rw [probeSt_eq, hoff]; rfl] at hst1
    subst hst1
    -- an entry of the cache: `AInv2` says of it what the contract says of a value
    have hent : ∀ e, (abortCheck env st).2.tt[G.key p]? = some e → depth ≤ e.depth →
        EntryBnd (Low2 G st.ply p) (High2 G st.ply p depth) e := fun e he' _ => ainv2_entry hA1 hp hnd he' depth
    refine ⟨fun s hpr => ⟨hA1, .inr (probe_inl_bnd hab hent hpr)⟩, fun a b dep hpr hdep => ?_⟩
    obtain ⟨haa, hbb, hab', hLa, hHb⟩ := probe_inr_bnd (A := Low2 G st.ply p) (B := High2 G st.ply p depth) hab
      (fun e he' hd => ⟨fun hb => (hent e he' hd).1 (by rw [hb]; simp), fun hb => (hent e he' hd).2 (by rw [hb]; simp)⟩) hpr
    -- a claim for the window after the probe is a claim for the given one
    have hwide : ∀ r, Bnd (Low2 G st.ply p) (High2 G st.ply p depth) a b r →
        Bnd (Low2 G st.ply p) (High2 G st.ply p depth) a0 b0 r := fun r h =>
      h.of_tightened low2_anti high2_mono hLa hHb haa hbb
    refine ⟨fun hd0 => ?_, fun hd0 out hout => ?_⟩
    · -- quiescence: static evaluations only, between the extreme values; the node is not in check and asked for depth 0,
      -- so neither a mated node nor one that is owed its mate in one
      have hd00 : depth = 0 ∧ G.inCheck p ≠ true := by
        rw [hd0] at hdep; split at hdep
        · cases hdep
        · exact ⟨hdep.symm, ‹_›⟩
      have hq := SearchMateCommon.quiesce_band he env (fuel + 1) p a b (abortCheck env st).2 hp.reach (Int.le_trans ha haa)
        hab' (Int.le_trans hbb hb)
      exact ⟨by rw [quiesce_tt]; exact hA1, .inr (hwide _ (hq.imp
        (fun (h : _ ≤ (32511 : Int)) => ⟨fun g => by omega, fun _ hM _ => absurd hM.2 hd00.2⟩)
        (fun (h : (-32511 : Int) ≤ _) => ⟨fun g => by omega, fun _ _ g => g.elim (by omega) (absurd · hd00.2)⟩)))⟩
    -- the loop: what it leaves is said in terms of the children's contracts
    have hkids : KidsBnd env G p dep st.ply (fun tt => TInv G tt ∧ AInv2 G root tt)
        (fun m => Low2 G (st.ply + 1) (G.play p m)) (fun m => High2 G (st.ply + 1) (G.play p m) (dep - 1)) a b 0 out := by
      rw [hout]
      exact abKids_bnd (SearchMateCommon.interrupted_stop hc) (fun m => low2_anti)
        (fun m hm => ih (st.ply + 1) (G.play p m) ⟨At.step hp hm, Nat.le_add_left 1 _⟩ (by omega) (dep - 1))
        _ a b _ false 0 _ (fun m hm => orderMoves_mem.1 hm) (fun m hm => orderMoves_mem.2 (mem_legalMovesOf.1 hm).1)
        (Int.le_trans ha haa) hab' (Int.le_trans hbb hb) hf.ply ⟨hT1, hA1⟩
    cases out with
    | abort st' =>
      -- below the ply cap a check that fires is an interruption
      obtain ⟨_, hI, s, hs, hfire, rfl⟩ := hkids
      exact ⟨hI.2, .inl (abortCheck_interrupts' env s (hs ▸ h255) hfire)⟩
    | cut st' =>
      obtain ⟨m, r, c, hm, hbr, _, hB, _, hI, rfl⟩ := hkids
      -- a cut at `β ≥ 32766`: the move mates (`mates_of_high2`); that is also what `Dist` asks of the lower bound stored
      refine ⟨?_, .inr (hwide _ ⟨fun _ => ⟨fun g => mates_of_high2 hm hB (Int.le_trans g hbr),
        fun _ hM _ => absurd hM.1 (List.ne_nil_of_mem hm)⟩, fun h => absurd h (Int.lt_irrefl _)⟩)⟩
      rw [storeKillers_tt]
      exact ainv2_insert hP hK hI.2 hp (fun _ => hnd) (List.ne_nil_of_mem hm) _ (fun _ g => mates_of_high2 hm hB g)
        (fun g => by simp at g) (fun _ _ => .inl rfl)
    | done alpha best n st' =>
      obtain ⟨hn, hst', hI, g1, g2, _, g4, g5⟩ := hkids
      refine ⟨fun hn0 => ?_, fun hn0 => ?_⟩
      · -- no legal move
        have hnil := hn.1 hn0
        split
        · rename_i hcI
          -- mated, so not at ply 1 (`NoMateInOne`): the mate score of the ply
          have h2 : 2 ≤ st.ply := Nat.lt_of_le_of_ne hply1 fun h' => not_mated_ply1 hno (h' ▸ hp) ⟨hnil, hcI⟩
          rw [hst']
          exact ⟨hI.2, .inr (bnd2_mated a0 b0 h2 (Nat.le_of_lt h255) ⟨hnil, hcI⟩)⟩
        · rename_i hcI
          exact ⟨hI.2, .inr (bnd2_zero _ _ (.inr ⟨fun h => hcI h.2.1.2, fun ⟨_, r, hr⟩ => List.ne_nil_of_mem hr.1 hnil⟩))⟩
      · have hlne : legalMovesOf G p ≠ [] := fun h => hn0 (hn.2 h)
        obtain ⟨m0, hm0⟩ := List.exists_mem_of_ne_nil _ hlne
        -- every move scores no more than alpha: it is not `≤ −32766`, and a mating move at ply 1 lifts it to `≥ 32766`
        have hLo : alpha ≤ -32766 → False := fun h => by have := (g5 m0 hm0).1 (by omega); omega
        have hM1 : st.ply = 1 → HasMate1 G p → alpha ≥ 32766 := fun h1 ⟨r, hr⟩ => by
          have := (g5 r hr.1).2 (by omega) hr.2 (nodraw_of_mates hD (h1 ▸ hp) hr).2
          omega
        -- above the window's lower end it is the score of the best move, whose child is then bounded above by `−alpha`
        have hcl0 := hwide alpha ⟨fun g => ⟨mates_of_high2 (g4 g).1 (g4 g).2, fun _ hM _ => absurd hM.1 hlne⟩,
          fun _ => ⟨fun h => (hLo h).elim, fun h1 h2 _ => hM1 h1 h2⟩⟩
        refine ⟨?_, .inr hcl0⟩
        -- the entry stored says of alpha what has just been shown of it (exact only if alpha is above the given lower end)
        show AInv2 G root (st'.tt.insert (G.key p) _)
        refine ainv2_insert hP hK hI.2 hp (fun _ => hnd) hlne _ (fun hb2 h => ?_) (fun _ h => hLo h)
          (fun h1 h2 => .inr (hM1 h1 h2))
        dsimp only at hb2 h
        refine (hcl0.1 ?_).1 h
        by_cases hle : alpha ≤ a0
        · simp [hle] at hb2
        · omega

/-- the root reports a safe move, with a score above that of being mated at ply 2 -/
def SafeSt (G : Game P M) (p : P) (st : St M) : Prop :=
  ∃ m s, st.bestMove = some m ∧ Safe G p m ∧ st.bestScore = some s ∧ s > -32766

theorem SafeSt.of_keep {G : Game P M} {p : P} {st st' : St M} (h : SafeSt G p st) (hk : Keep st st') : SafeSt G p st' := by
  obtain ⟨m, s, h1, h2, h3, h4⟩ := h
  exact ⟨m, s, hk.bestMove.trans h1, h2, hk.bestScore.trans h3, h4⟩

/-- One iteration: `AInv2` is kept; from depth 2 on a safe move stays reported, and is reported unless the iteration was
    interrupted.  In the root loop a safe move scores `> −32766`, and at depth `≥ 2` a move after which the opponent mates
    at once scores `−32766` or does not exceed alpha: the best move of a completed iteration is safe; an interrupted
    iteration reports the old move, or the loop's best so far with a larger score, which is safe again. -/
theorem abStart_spec2 {env : Env} (hc : MonoClock env) (hoff : env.cacheOff = false) {G : Game P M} (hk : KeyMate G) (p : P)
    (he : EvalBoundedFrom G p) (hno : NoMateInOne G p) (hP : PlyKeys G p) (hK : MatedKeysFresh2 G p)
    (hD : NoDrawAtMate2 G p) (hsafe : ∃ s, Safe G p s) (depth : Nat) {st : St M} (hply : st.ply = 0)
    (hT : TInv G st.tt) (hA : AInv2 G p st.tt) :
    AInv2 G p (abStart env G p depth st).tt ∧
    (2 ≤ depth → (SafeSt G p st → SafeSt G p (abStart env G p depth st)) ∧
      (Interrupted env (abStart env G p depth st) ∨ SafeSt G p (abStart env G p depth st))) := by
  obtain ⟨sf, hs, hsn⟩ := hsafe
  have hlne : legalMovesOf G p ≠ [] := List.ne_nil_of_mem hs
  -- at depth `≥ 2` a move whose child is bounded above by the negation of a score `> −32766` is safe: with a mate in one
  -- the child, searched at depth `≥ 1`, would be bounded only by `32766` or more
  have hsafeB : ∀ {m al}, m ∈ legalMovesOf G p ∧ High2 G 1 (G.play p m) (depth - 1) (-al) → 2 ≤ depth → al > -32766 →
      Safe G p m := fun h hd hal => ⟨h.1, fun hu => by have := h.2.2 rfl hu (.inl (by omega)); omega⟩
  rcases abStart_bnd (depth := depth) (I := fun tt => TInv G tt ∧ AInv2 G p tt)
      (A := fun m => Low2 G 1 (G.play p m)) (B := fun m => High2 G 1 (G.play p m) (depth - 1))
      hlne (SearchMateCommon.interrupted_stop hc) (fun m => low2_anti)
      (fun m hm => ab_spec2 hc hoff hk p he hno hP hK hD 255 1 (G.play p m) ⟨At.step At.root hm, Nat.le_refl _⟩ rfl (depth - 1))
      hply ⟨hT, hA⟩
    with ⟨al, best, s, hs0, hIs, hks, hfire, hB, h⟩ | ⟨al, best, c, _, hIc, _, _, hb, hB, hAll, h⟩
  · -- cut short: the old move, or the loop's best so far with a larger score
    have hf := abortCheck_frame env s
    have hint := abortCheck_interrupts' env s (by rw [hs0]; decide) hfire
    have hkeep := hks.trans (keep_of_frame hf)
    rcases h with h | ⟨s0, h1, h2, h⟩ <;> rw [h]
    · exact ⟨hf.tt ▸ hIs.2, fun _ => ⟨fun hS => hS.of_keep hkeep, .inl hint⟩⟩
    · refine ⟨hf.tt ▸ hIs.2, fun hd => ⟨fun hS => ?_, .inl hint⟩⟩
      obtain ⟨_, s1, _, _, g3, g4⟩ := hS.of_keep hkeep
      rw [g3] at h1; cases h1
      have hal : al > -32766 := Int.lt_trans g4 h2
      exact ⟨best, al, rfl, hsafeB (hB (Int.lt_trans (by decide) hal)) hd hal, rfl, hal⟩
  · -- completed: the safe move's child is bounded below by `−alpha`, the best move's above
    rw [h]
    -- alpha is of neither extreme: the safe move's child has no mate in one, and a root child is not at ply 2
    have hlo : al > -32766 := Int.lt_of_not_ge fun g => hsn ((hAll sf hs).1 (by omega)).2
    have hhi : al < 32766 := Int.lt_of_not_ge fun g => by have := (hB.1 (by omega)).1; omega
    have hS : 2 ≤ depth → SafeSt G p ({ c.insert (G.key p) ⟨al, depth, .exact, best⟩ 1 with
        bestScore := some al, bestMove := some best } : St M) := fun hd => ⟨best, al, rfl, hsafeB ⟨hb, hB⟩ hd hlo, rfl, hlo⟩
    exact ⟨ainv2_insert hP hK hIc.2 At.root (fun h => absurd rfl h) hlne _ (fun _ h => absurd h (Int.not_le.2 hhi))
      (fun _ h => Int.not_le.2 hlo h) (fun h => absurd h (by decide)), fun hd => ⟨fun _ => hS hd, .inr (hS hd)⟩⟩

/-- every search keeps the invariants, and once an iteration of depth `≥ 2` has been reported the reported move is
    safe: an interrupted later iteration replaces it only by a move with a larger score, which is safe again -/
theorem search_spec2 (env : Env) (G : Game P M) (p : P) (maxDepth : Option Nat) (tt0 : Table M)
    (hc : MonoClock env) (hoff : env.cacheOff = false) (he : EvalBoundedFrom G p) (hk : KeyMate G)
    (hP : PlyKeys G p) (hK : MatedKeysFresh2 G p) (hD : NoDrawAtMate2 G p)
    (hno : NoMateInOne G p) (hsafe : ∃ s, Safe G p s) (hinv : AvoidInv G p tt0) :
    SearchMate.RootSt G p (search env G p maxDepth tt0).st ∧ AInv2 G p (search env G p maxDepth tt0).st.tt ∧
    ((∃ i ∈ (search env G p maxDepth tt0).infos, i.depth ≥ 2) → SafeSt G p (search env G p maxDepth tt0).st) :=
  SearchMate.search_rule hc hk he hno (T := 2) (by decide) (fun _ _ h hkp => h.of_keep hkp)
    (fun d _ hR hA => abStart_spec2 hc hoff hk p he hno hP hK hD hsafe d hR.2.1 hR.1 hA) maxDepth hinv.1 hinv.2

/-- **Third clause of the mate property, with the cache on.**  For every game, root, depth limit, environment (any
    limits, stop point, monotone clock) and initial cache satisfying `AvoidInv` (the empty one does: `avoidInv_empty`;
    so does the cache left by any earlier search of the position under these hypotheses: second conjunct): if the root
    has no mate in one (otherwise the first clause, `SearchMateOne.mate_in_one_played`, applies), some legal move does not allow
    a mate in one, and an iteration of depth `≥ 2` completed (an info line of depth `≥ 2` was printed), then the chosen
    move does not allow a mate in one.  What `hP`, `hK`, `hD` are needed for: header of `Props/C12.lean`, third
    completeness clause. -/
theorem avoidable_mate_avoided (env : Env) (G : Game P M) (p : P) (maxDepth : Option Nat) (tt0 : Table M)
    (hc : MonoClock env) (hoff : env.cacheOff = false) (he : EvalBoundedFrom G p) (hk : KeyMate G)
    (hP : PlyKeys G p) (hK : MatedKeysFresh2 G p) (hD : NoDrawAtMate2 G p)
    (hno : NoMateInOne G p) (hsafe : ∃ s, Safe G p s) (hinv : AvoidInv G p tt0)
    (hdone : ∃ i ∈ (search env G p maxDepth tt0).infos, i.depth ≥ 2) :
    (∃ m, (search env G p maxDepth tt0).st.bestMove = some m ∧ Safe G p m) ∧
    AvoidInv G p (search env G p maxDepth tt0).st.tt := by
  obtain ⟨hR, hA, hS⟩ := search_spec2 env G p maxDepth tt0 hc hoff he hk hP hK hD hno hsafe hinv
  obtain ⟨m, s, h1, h2, _, _⟩ := hS hdone
  exact ⟨⟨m, h1, h2⟩, hR.1, hA⟩

/-- the invariant is re-established by every search of the position, completed or not -/
theorem avoidInv_preserved (env : Env) (G : Game P M) (p : P) (maxDepth : Option Nat) (tt0 : Table M)
    (hc : MonoClock env) (hoff : env.cacheOff = false) (he : EvalBoundedFrom G p) (hk : KeyMate G)
    (hP : PlyKeys G p) (hK : MatedKeysFresh2 G p) (hD : NoDrawAtMate2 G p)
    (hno : NoMateInOne G p) (hsafe : ∃ s, Safe G p s) (hinv : AvoidInv G p tt0) :
    AvoidInv G p (search env G p maxDepth tt0).st.tt :=
  have key := search_spec2 env G p maxDepth tt0 hc hoff he hk hP hK hD hno hsafe hinv
  ⟨key.1.1, key.2.1⟩

/-- the move answered on the `bestmove` line -/
theorem avoidable_mate_answered (env : Env) (G : Game P M) (p : P) (maxDepth : Option Nat) (tt0 : Table M)
    (hc : MonoClock env) (hoff : env.cacheOff = false) (he : EvalBoundedFrom G p) (hk : KeyMate G)
    (hP : PlyKeys G p) (hK : MatedKeysFresh2 G p) (hD : NoDrawAtMate2 G p)
    (hno : NoMateInOne G p) (hsafe : ∃ s, Safe G p s) (hinv : AvoidInv G p tt0)
    (hdone : ∃ i ∈ (search env G p maxDepth tt0).infos, i.depth ≥ 2) :
    ∃ m, (search env G p maxDepth tt0).best = some m ∧ Safe G p m := by
  obtain ⟨m, h1, h2⟩ := (avoidable_mate_avoided env G p maxDepth tt0 hc hoff he hk hP hK hD hno hsafe hinv hdone).1
  exact ⟨m, SearchMateCommon.best_of_bestMove env G p maxDepth tt0 m h1, h2⟩

open RCE.Proofs.SearchMateOne (Go cacheAfter)

/-- after any number of earlier searches of the position (any depths, limits, stop points; monotone clocks, cache on;
    completed or interrupted), starting from a cache that satisfies the invariant — the empty one, for instance — a
    further search that completes an iteration of depth `≥ 2` chooses a move that does not allow a mate in one -/
theorem avoidable_mate_avoided_again (G : Game P M) (p : P) (he : EvalBoundedFrom G p) (hk : KeyMate G)
    (hP : PlyKeys G p) (hK : MatedKeysFresh2 G p) (hD : NoDrawAtMate2 G p) (hno : NoMateInOne G p)
    (hsafe : ∃ s, Safe G p s) :
    ∀ (gs : List Go) (tt0 : Table M), AvoidInv G p tt0 → (∀ g ∈ gs, MonoClock g.env ∧ g.env.cacheOff = false) →
      AvoidInv G p (cacheAfter G p gs tt0) ∧
      ∀ (env : Env) (maxDepth : Option Nat), MonoClock env → env.cacheOff = false →
        (∃ i ∈ (search env G p maxDepth (cacheAfter G p gs tt0)).infos, i.depth ≥ 2) →
        ∃ m, (search env G p maxDepth (cacheAfter G p gs tt0)).st.bestMove = some m ∧ Safe G p m := by
  intro gs tt0 hinv hgs
  have h := SearchMateOne.cacheAfter_inv (Inv := AvoidInv G p) (H := fun g => MonoClock g.env ∧ g.env.cacheOff = false)
    (fun g tt hg hi => avoidInv_preserved g.env G p g.maxDepth tt hg.1 hg.2 he hk hP hK hD hno hsafe hi) gs tt0 hinv hgs
  exact ⟨h, fun env md hc hoff hdone => (avoidable_mate_avoided env G p md _ hc hoff he hk hP hK hD hno hsafe h hdone).1⟩

/-- the first search of a position, from the empty cache -/
theorem avoidable_mate_avoided_first (env : Env) (G : Game P M) (p : P) (maxDepth : Option Nat)
    (hc : MonoClock env) (hoff : env.cacheOff = false) (he : EvalBoundedFrom G p) (hk : KeyMate G)
    (hP : PlyKeys G p) (hK : MatedKeysFresh2 G p) (hD : NoDrawAtMate2 G p)
    (hno : NoMateInOne G p) (hsafe : ∃ s, Safe G p s)
    (hdone : ∃ i ∈ (search env G p maxDepth {}).infos, i.depth ≥ 2) :
    ∃ m, (search env G p maxDepth {}).st.bestMove = some m ∧ Safe G p m :=
  (avoidable_mate_avoided env G p maxDepth {} hc hoff he hk hP hK hD hno hsafe (avoidInv_empty G p) hdone).1

theorem safe_of_mates {G : Game P M} {p : P} {m : M} (h : Mates G p m) : Safe G p m := by
  refine ⟨h.1, ?_⟩
  rintro ⟨r, hr, _⟩
  rw [h.2.1] at hr
  exact absurd hr List.not_mem_nil

/-- first and third clause together, first search of a position: whether or not the root has a mate in one, once an
    iteration of depth `≥ 2` has completed the chosen move does not allow a mate in one if some legal move avoids it
    (hypotheses of `SearchMateOne.mate_in_one_played` and of `avoidable_mate_avoided`) -/
theorem avoidable_mate_avoided_first_any (env : Env) (G : Game P M) (p : P) (maxDepth : Option Nat)
    (hc : MonoClock env) (hoff : env.cacheOff = false) (he : EvalBoundedFrom G p) (hk : KeyMate G)
    (hK1 : SearchMateOne.MatedKeysFresh G p) (hD1 : SearchMateOne.NoDrawAtMate G p) (hO : SearchMateOne.OrderScoresOK G p)
    (hP : PlyKeys G p) (hK : MatedKeysFresh2 G p) (hD : NoDrawAtMate2 G p) (hsafe : ∃ s, Safe G p s)
    (hdone : ∃ i ∈ (search env G p maxDepth {}).infos, i.depth ≥ 2) :
    ∃ m, (search env G p maxDepth {}).st.bestMove = some m ∧ Safe G p m := by
  by_cases hex : ∃ m, Mates G p m
  · have hne : (search env G p maxDepth {}).infos ≠ [] := by
      obtain ⟨i, hi, _⟩ := hdone
      intro h; rw [h] at hi; exact absurd hi List.not_mem_nil
    obtain ⟨m, h1, h2⟩ := SearchMateOne.mate_in_one_played_first env G p maxDepth hc hoff he hk hK1 hD1 hO hex hne
    exact ⟨m, h1, safe_of_mates h2⟩
  · have hno : NoMateInOne G p := fun m hm hM => hex ⟨m, hm, hM⟩
    exact avoidable_mate_avoided_first env G p maxDepth hc hoff he hk hP hK hD hno hsafe hdone

/-- the third clause as first proposed: only the hypotheses of the other search theorems, fresh cache.  FALSE
    (`Counter.avoid_clean_refuted`). -/
def avoidable_mate_avoided_clean_statement : Prop :=
  ∀ (P M : Type) [DecidableEq M] (env : Env) (G : Game P M) (p : P) (maxDepth : Option Nat),
    MonoClock env → env.cacheOff = false → EvalBoundedFrom G p → KeyMate G → NoMateInOne G p → (∃ s, Safe G p s) →
    (∃ i ∈ (search env G p maxDepth {}).infos, i.depth ≥ 2) →
    ∃ m, (search env G p maxDepth {}).st.bestMove = some m ∧ Safe G p m

/-- `avoidable_mate_avoided_first` without `PlyKeys` (all other hypotheses kept).  FALSE
    (`Counter.avoid_without_plyKeys_refuted`). -/
def avoidable_mate_avoided_no_plyKeys_statement : Prop :=
  ∀ (P M : Type) [DecidableEq M] (env : Env) (G : Game P M) (p : P) (maxDepth : Option Nat),
    MonoClock env → env.cacheOff = false → EvalBoundedFrom G p → KeyMate G → MatedKeysFresh2 G p → NoDrawAtMate2 G p →
    NoMateInOne G p → (∃ s, Safe G p s) → (∃ i ∈ (search env G p maxDepth {}).infos, i.depth ≥ 2) →
    ∃ m, (search env G p maxDepth {}).st.bestMove = some m ∧ Safe G p m

namespace Counter
open RCE.Proofs.SearchMate.Counter (mkGame key_inj keyMate evalBounded)

/-! ### a transposition between ply 1 and ply 3

0 = root: 1, 2.  1 → 3, and 3 is mated: the move 1 allows a mate in one.  2 → 4 (in check) → 1: the move 2 does not (the
opponent's only reply, 4, is no mate), although it loses as well, one move later — position 1 is reached again at
ply 3.  The key is injective.  Depth 2, empty cache: iteration 1 prefers the move 1 (both score 0); iteration 2 searches it
first, stores `⟨32766, exact⟩` for position 1 (mate at ply 2) and has alpha = −32766; then the move 2: position 4 is in
check, so its child — position 1 at ply 3 — is probed with depth 0 and the entry answers `32766` (the truth at ply 3
is `32764`), position 4 returns −32766, position 2 cuts at β = 32766, the root sees −32766, not above alpha.  The
completed depth-2 iteration reports the move 1. -/

def mv5 : Fin 8 → List (Fin 8) := fun p => match p with | 0 => [1, 2] | 1 => [3] | 2 => [4] | 4 => [1] | _ => []
def ck5 : Fin 8 → Bool := fun p => p == 3 || p == 4
/-- the counter-example of finding D10 (`SearchMateOneChess.G5` is another game, the one that shows
    `mate_in_one_played` not vacuous) -/
def G5 : Game (Fin 8) (Fin 8) := mkGame mv5 ck5

theorem G5_unsafe_1 : ¬ Safe G5 0 1 := by unfold Safe AllowsMateInOne Mates Mated; decide +kernel

theorem G5_safe_2 : Safe G5 0 2 := by unfold Safe AllowsMateInOne Mates Mated; decide +kernel

theorem G5_noMateInOne : NoMateInOne G5 0 := by unfold NoMateInOne Mated; decide +kernel

theorem G5_matedKeysFresh2 : MatedKeysFresh2 G5 0 := matedKeysFresh2_of_inj fun _ _ h => key_inj _ _ _ _ h

theorem G5_noDraw : NoDrawAtMate2 G5 0 := noDrawAtMate2_of_never (fun _ => rfl) (fun _ => rfl) 0

def r5 := search {} G5 0 (some 2) {}

-- the theorems below compare runs as terms; left reducible, `search` is unfolded by the unifier at each comparison
attribute [local irreducible] search

/--
info: ([1, 2],
 some 1,
 some (-32766),
 [(0, -32766, 2, RCE.Search.Bound.exact, 1),
  (1, 32766, 1, RCE.Search.Bound.exact, 3),
  (2, 32766, 1, RCE.Search.Bound.lower, 4),
  (4, -32766, 1, RCE.Search.Bound.upper, 1)])
-/
#guard_msgs in
#eval (r5.infos.map (·.depth), r5.st.bestMove, r5.st.bestScore,
  r5.st.tt.toList.map (fun (k, e) => (k, e.score, e.depth, e.bound, e.best)))

/-- `avoidable_mate_avoided_no_plyKeys_statement` fails, given the run displayed by the `#eval` above -/
theorem avoid_without_plyKeys_refuted (hrun : (∃ i ∈ r5.infos, i.depth ≥ 2) ∧ r5.st.bestMove = some 1) :
    ¬ avoidable_mate_avoided_no_plyKeys_statement := fun h =>
  refute_best (h (Fin 8) (Fin 8) {} G5 0 (some 2) (monoClock_default _ _ _) rfl (evalBounded _ _ _) (keyMate _ _)
    G5_matedKeysFresh2 G5_noDraw G5_noMateInOne ⟨2, G5_safe_2⟩ hrun.1) hrun.2 G5_unsafe_1

/-- so does the clean statement -/
theorem avoid_clean_refuted (hrun : (∃ i ∈ r5.infos, i.depth ≥ 2) ∧ r5.st.bestMove = some 1) :
    ¬ avoidable_mate_avoided_clean_statement := by
  intro h
  apply avoid_without_plyKeys_refuted hrun
  intro P M _ env G p md hc hoff he hk _ _ hno hsafe hdone
  exact h P M env G p md hc hoff he hk hno hsafe hdone

/-- `PlyKeys` is what fails in `G5`: position 1 occurs at ply 3 -/
theorem G5_not_plyKeys : ¬ PlyKeys G5 0 := by
  intro h
  have hat : At G5 0 3 1 :=
    At.step (q := 4) (m := 1) (At.step (q := 2) (m := 4) (At.step (q := 0) (m := 2) At.root (by decide)) (by decide))
      (by decide)
  rcases h 1 (by decide +kernel) (by unfold AllowsMateInOne Mates Mated; decide +kernel) 3 1 hat rfl with h | h
  · exact absurd h.1 (by decide)
  · exact not_draw rfl rfl h.2

/-- the same game without the edge 4 → 1 and with position 4 not in check (a stalemate): depth 2 reports the safe move -/
def mv5' : Fin 8 → List (Fin 8) := fun p => match p with | 0 => [1, 2] | 1 => [3] | 2 => [4] | _ => []
def r5' := search {} (mkGame mv5' (fun p => p == 3)) 0 (some 2) {}

/-- info: ([1, 2], some 2, some 0) -/
#guard_msgs in
#eval (r5'.infos.map (·.depth), r5'.st.bestMove, r5'.st.bestScore)


/-- depth 1 is not enough (the reply is not searched): the same game at depth 1 reports the move 1 -/
def r5'' := search {} (mkGame mv5' (fun p => p == 3)) 0 (some 1) {}

/-- info: ([1], some 1, some 0) -/
#guard_msgs in
#eval (r5''.infos.map (·.depth), r5''.st.bestMove, r5''.st.bestScore)

/-! ### the other direction: an entry stored at ply 5 and read at ply 1

0 = root: 3, 1.  1 → 2, and 2 is mated: the move 1 allows a mate in one.  3 → 4, 9;  4 → 5 → 6 → 1 (position 1 again, at ply 5);
9 → 10 → 11 with 11 mated (ply 4).  Every position but the root is in check, so the extensions carry a depth-1 search to
the end of every line.  The move 3 is safe and worth −32764 (mated at ply 4).  Its first line stores `⟨32762, exact⟩` for
position 1 (mate at ply 6); the probe of position 1 at ply 1 returns it: the move 1 scores −32762 — "mated in three", in
truth mated in one — and is preferred.  Iterations 1 and 2 report it; in iteration 3 the entry is too shallow, the move 1
is searched first (`−32766`, stored for position 1), and then the entry misleads the other way as in `G5`: still the move 1. -/

def mv6 : Fin 16 → List (Fin 16) := fun p => match p with
  | 0 => [3, 1] | 1 => [2] | 3 => [4, 9] | 4 => [5] | 5 => [6] | 6 => [1] | 9 => [10] | 10 => [11] | _ => []

def G6 : Game (Fin 16) (Fin 16) where
  allMoves := mv6
  legal _ _ := true
  play _ m := m
  inCheck := fun p => p != 0
  eval _ := 0
  fifty _ := false
  repeated _ := false
  key p := UInt64.ofNat p.val
  isCapture _ := false
  isPromotion _ := false
  staticScore _ := 0
  defaultMove := 0

def r6 (d : Nat) := search {} G6 0 (some d) {}

/-- info: [([1], some 1, some (-32762)), ([1, 2], some 1, some (-32762)), ([1, 2, 3], some 1, some (-32766))] -/
#guard_msgs in
#eval [1, 2, 3].map fun d => ((r6 d).infos.map (·.depth), (r6 d).st.bestMove, (r6 d).st.bestScore)

end Counter

/-- `avoidable_mate_avoided_first` without `NoDrawAtMate2`.  FALSE (`Counter2.avoid_without_noDraw_refuted`). -/
def avoidable_mate_avoided_no_noDraw_statement : Prop :=
  ∀ (P M : Type) [DecidableEq M] (env : Env) (G : Game P M) (p : P) (maxDepth : Option Nat),
    MonoClock env → env.cacheOff = false → EvalBoundedFrom G p → KeyMate G → PlyKeys G p → MatedKeysFresh2 G p →
    NoMateInOne G p → (∃ s, Safe G p s) → (∃ i ∈ (search env G p maxDepth {}).infos, i.depth ≥ 2) →
    ∃ m, (search env G p maxDepth {}).st.bestMove = some m ∧ Safe G p m

/-- `avoidable_mate_avoided_first` without `MatedKeysFresh2`.  FALSE (`Counter2.avoid_without_fresh_refuted`). -/
def avoidable_mate_avoided_no_fresh_statement : Prop :=
  ∀ (P M : Type) [DecidableEq M] (env : Env) (G : Game P M) (p : P) (maxDepth : Option Nat),
    MonoClock env → env.cacheOff = false → EvalBoundedFrom G p → KeyMate G → PlyKeys G p → NoDrawAtMate2 G p →
    NoMateInOne G p → (∃ s, Safe G p s) → (∃ i ∈ (search env G p maxDepth {}).infos, i.depth ≥ 2) →
    ∃ m, (search env G p maxDepth {}).st.bestMove = some m ∧ Safe G p m

namespace Counter2
open RCE.Proofs.SearchMate.Counter (mkGame key_inj)

/-! ### a repeated position

0 = root: 2, 1.  1 → 3, and 3 is mated; but position 1 counts as repeated, so `alpha_beta` returns 0 for it before looking
at its moves.  2 → 4, which the evaluation dislikes (−100 for the side to move) and which has no move (no check).
Depth 2: the move 2 scores −100, the move 1 scores 0 and is reported. -/

def mv7 : Fin 8 → List (Fin 8) := fun p => match p with | 0 => [2, 1] | 1 => [3] | 2 => [4] | _ => []
def G7 : Game (Fin 8) (Fin 8) :=
  { mkGame mv7 (fun p => p == 3) with repeated := fun p => p == 1, eval := fun p => if p = 4 then -100 else 0 }

theorem G7_key_inj : ∀ p q : Fin 8, G7.key p = G7.key q → p = q := key_inj mv7 (fun p => p == 3)

theorem G7_unsafe_1 : ¬ Safe G7 0 1 := by unfold Safe AllowsMateInOne Mates Mated; decide +kernel

theorem G7_safe_2 : Safe G7 0 2 := by unfold Safe AllowsMateInOne Mates Mated; decide +kernel

theorem G7_noMateInOne : NoMateInOne G7 0 := by unfold NoMateInOne Mated; decide +kernel

theorem G7_plyKeys : PlyKeys G7 0 :=
  plyKeys_single (c := 1) (by unfold AllowsMateInOne Mates Mated; decide +kernel) (by decide +kernel)
    (fun q => match q with | 0 => 0 | 1 => 1 | 2 => 1 | _ => 2) (by decide +kernel) rfl ⟨3, by unfold Mates Mated; decide +kernel⟩

def r7 := search {} G7 0 (some 2) {}

attribute [local irreducible] search

/-- info: ([1, 2], some 1, some 0) -/
#guard_msgs in
#eval (r7.infos.map (·.depth), r7.st.bestMove, r7.st.bestScore)

/-- `avoidable_mate_avoided_no_noDraw_statement` fails, given the run displayed by the `#eval` above -/
theorem avoid_without_noDraw_refuted (hrun : (∃ i ∈ r7.infos, i.depth ≥ 2) ∧ r7.st.bestMove = some 1) :
    ¬ avoidable_mate_avoided_no_noDraw_statement := fun h =>
  refute_best (h (Fin 8) (Fin 8) {} G7 0 (some 2) (monoClock_default _ _ _) rfl (evalBounded_of_forall (by decide +kernel) 0)
    (keyMate_of_inj G7 G7_key_inj) G7_plyKeys (matedKeysFresh2_of_inj fun _ _ h => G7_key_inj _ _ h) G7_noMateInOne
    ⟨2, G7_safe_2⟩ hrun.1) hrun.2 G7_unsafe_1

/-! ### a writing node with the key of the mated grandchild

0 = root: 2, 1.  1 → 3, and 3 is mated.  2 → 5, 4;  5 → 6 → 7 with 7 mated (5 is lost, in two), 4 has no move (no check); the
evaluation of 6 is −100 for the side to move.  Position 5 has the key of position 3: `KeyMate` holds (both are lost).
Depth 3: position 5, searched to depth 1, does not see the mate and stores `⟨100, exact, depth 1⟩` under the key of 3; the
move 2 scores 0.  Then the move 1: the probe of the mated position 3 returns 100, position 1 "loses 100", the move 1
scores 100 (1 after the null-window search) and is reported. -/

def mv8 : Fin 8 → List (Fin 8) :=
  fun p => match p with | 0 => [2, 1] | 1 => [3] | 2 => [5, 4] | 5 => [6] | 6 => [7] | _ => []
def G8 : Game (Fin 8) (Fin 8) :=
  { mkGame mv8 (fun p => p == 3 || p == 7) with
    key := fun p => if p = 5 then 3 else UInt64.ofNat p.val, eval := fun p => if p = 6 then -100 else 0 }

theorem G8_keyMate : KeyMate G8 := keyMate_of_solver G8 3 (by decide +kernel) (by decide +kernel)

theorem G8_unsafe_1 : ¬ Safe G8 0 1 := by unfold Safe AllowsMateInOne Mates Mated; decide +kernel

theorem G8_safe_2 : Safe G8 0 2 := by unfold Safe AllowsMateInOne Mates Mated; decide +kernel

theorem G8_noMateInOne : NoMateInOne G8 0 := by unfold NoMateInOne Mated; decide +kernel

theorem G8_plyKeys : PlyKeys G8 0 :=
  plyKeys_single (c := 1) (by unfold AllowsMateInOne Mates Mated; decide +kernel) (by decide +kernel)
    (fun q => match q with | 0 => 0 | 1 => 1 | 2 => 1 | 6 => 3 | 7 => 4 | _ => 2) (by decide +kernel) rfl
    ⟨3, by unfold Mates Mated; decide +kernel⟩

theorem G8_noDraw : NoDrawAtMate2 G8 0 := noDrawAtMate2_of_never (fun _ => rfl) (fun _ => rfl) 0

def r8 := search {} G8 0 (some 3) {}

/--
info: ([1, 2, 3],
 some 1,
 some 100,
 [(0, 100, 3, RCE.Search.Bound.exact, 1),
  (1, -100, 2, RCE.Search.Bound.exact, 3),
  (2, 0, 2, RCE.Search.Bound.exact, 4),
  (3, 100, 1, RCE.Search.Bound.exact, 6)])
-/
#guard_msgs in
#eval (r8.infos.map (·.depth), r8.st.bestMove, r8.st.bestScore,
  r8.st.tt.toList.map (fun (k, e) => (k, e.score, e.depth, e.bound, e.best)))

/-- `avoidable_mate_avoided_no_fresh_statement` fails, given the run displayed by the `#eval` above -/
theorem avoid_without_fresh_refuted (hrun : (∃ i ∈ r8.infos, i.depth ≥ 2) ∧ r8.st.bestMove = some 1) :
    ¬ avoidable_mate_avoided_no_fresh_statement := fun h =>
  refute_best (h (Fin 8) (Fin 8) {} G8 0 (some 3) (monoClock_default _ _ _) rfl (evalBounded_of_forall (by decide +kernel) 0)
    G8_keyMate G8_plyKeys G8_noDraw G8_noMateInOne ⟨2, G8_safe_2⟩ hrun.1) hrun.2 G8_unsafe_1

end Counter2

end RCE.Proofs.SearchMateAvoid

#print axioms RCE.Proofs.SearchMateAvoid.avoidable_mate_avoided
#print axioms RCE.Proofs.SearchMateAvoid.avoidInv_preserved
#print axioms RCE.Proofs.SearchMateAvoid.avoidable_mate_answered
#print axioms RCE.Proofs.SearchMateAvoid.avoidable_mate_avoided_again
#print axioms RCE.Proofs.SearchMateAvoid.avoidable_mate_avoided_first
#print axioms RCE.Proofs.SearchMateAvoid.avoidInv_empty
#print axioms RCE.Proofs.SearchMateAvoid.avoidable_mate_avoided_first_any
#print axioms RCE.Proofs.SearchMateAvoid.Counter.avoid_without_plyKeys_refuted
#print axioms RCE.Proofs.SearchMateAvoid.Counter.avoid_clean_refuted
#print axioms RCE.Proofs.SearchMateAvoid.Counter.G5_not_plyKeys
#print axioms RCE.Proofs.SearchMateAvoid.Counter2.avoid_without_noDraw_refuted
#print axioms RCE.Proofs.SearchMateAvoid.Counter2.avoid_without_fresh_refuted
