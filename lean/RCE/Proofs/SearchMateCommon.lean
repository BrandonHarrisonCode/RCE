import RCE.Proofs.SearchRules
/-! What the proofs of the mate clauses (C12) share: forced mates in an abstract game and a solver that decides them
    on a finite one, quiescence as a source of static evaluations only, the search of a mated node, and the last
    steps from the search state to the answer. -/
namespace RCE.Proofs.SearchMateCommon
open RCE.Search RCE.Proofs.SearchDefs RCE.Proofs.SearchUnfold RCE.Proofs.SearchAbort
open RCE.Proofs.SearchRules

variable {P M : Type} [DecidableEq M]
set_option linter.unusedSectionVars false

theorem not_won_of_lost {G : Game P M} {q : P} (h : Lost G q) : ¬ Won G q :=
  Lost.rec (motive_1 := fun a _ => ¬ Won G a) (motive_2 := fun a _ => ¬ Lost G a)
    (fun hnil _ hw => by
      cases hw with
      | some m hm _ => rw [hnil] at hm; exact absurd hm List.not_mem_nil)
    (fun _ _ ih hw => by
      cases hw with
      | some m hm hl => exact ih m hm hl)
    (fun m hm _ ih hlost => by
      cases hlost with
      | mate hnil _ => rw [hnil] at hm; exact absurd hm List.not_mem_nil
      | all _ hall => exact ih (hall m hm))
    h

def wonWithin (G : Game P M) (n : Nat) (p : P) : Bool := (legalMovesOf G p).any fun m => lostWithin G n (G.play p m)

theorem lostWithin_succ (G : Game P M) (n : Nat) (p : P) :
    lostWithin G (n + 1) p = if (legalMovesOf G p).isEmpty then G.inCheck p
      else (legalMovesOf G p).all fun m => wonWithin G n (G.play p m) := rfl

theorem lostWithin_sound (G : Game P M) : ∀ n p, lostWithin G n p = true → Lost G p := by
  intro n
  induction n with
  | zero =>
    intro p h
    simp only [lostWithin, Bool.and_eq_true, List.isEmpty_iff] at h
    exact Lost.mate h.1 h.2
  | succ n ih =>
    intro p h
    rw [lostWithin_succ] at h
    split at h
    · exact Lost.mate (List.isEmpty_iff.1 ‹_›) h
    · rename_i hne
      refine Lost.all (fun h' => hne (by rw [h']; rfl)) fun m hm => ?_
      obtain ⟨m', hm', hl⟩ := List.any_eq_true.1 (List.all_eq_true.1 h m hm)
      exact Won.some m' hm' (ih _ hl)

theorem wonWithin_sound (G : Game P M) {n : Nat} {p : P} (h : wonWithin G n p = true) : Won G p := by
  obtain ⟨m, hm, hl⟩ := List.any_eq_true.1 h
  exact Won.some m hm (lostWithin_sound G n _ hl)

/-- if one more round finds nothing new, the solver is complete -/
theorem lostWithin_complete (G : Game P M) (n : Nat) (hstab : ∀ p, lostWithin G (n + 1) p = lostWithin G n p) {p : P}
    (h : Lost G p) : lostWithin G n p = true :=
  Lost.rec (motive_1 := fun a _ => lostWithin G n a = true) (motive_2 := fun a _ => wonWithin G n a = true)
    (fun {p} hnil hc => by rw [← hstab, lostWithin_succ, hnil]; exact hc)
    (fun {p} hne _ ih => by
      rw [← hstab, lostWithin_succ, if_neg (by rw [List.isEmpty_iff]; exact hne)]
      exact List.all_eq_true.2 ih)
    (fun m hm _ ih => List.any_eq_true.2 ⟨m, hm, ih⟩)
    h

theorem wonWithin_complete (G : Game P M) (n : Nat) (hstab : ∀ p, lostWithin G (n + 1) p = lostWithin G n p) {p : P}
    (h : Won G p) : wonWithin G n p = true := by
  cases h with
  | some m hm hl => exact List.any_eq_true.2 ⟨m, hm, lostWithin_complete G n hstab hl⟩

theorem not_lost (G : Game P M) (n : Nat) (hstab : ∀ p, lostWithin G (n + 1) p = lostWithin G n p) {p : P}
    (h : lostWithin G n p = false) : ¬ Lost G p := fun hl => by
  rw [lostWithin_complete G n hstab hl] at h; cases h

theorem not_won (G : Game P M) (n : Nat) (hstab : ∀ p, lostWithin G (n + 1) p = lostWithin G n p) {p : P}
    (h : wonWithin G n p = false) : ¬ Won G p := fun hw => by
  rw [wonWithin_complete G n hstab hw] at h; cases h

theorem keyMate_of_solver (G : Game P M) (n : Nat) (hstab : ∀ p, lostWithin G (n + 1) p = lostWithin G n p)
    (h : ∀ p q, G.key p = G.key q → wonWithin G n p = wonWithin G n q ∧ lostWithin G n p = lostWithin G n q) :
    KeyMate G := fun p q hk =>
  ⟨fun hw => wonWithin_sound G (by rw [← (h p q hk).1]; exact wonWithin_complete G n hstab hw),
   fun hl => lostWithin_sound G n q (by rw [← (h p q hk).2]; exact lostWithin_complete G n hstab hl)⟩

theorem keyMate_of_inj (G : Game P M) (h : ∀ p q, G.key p = G.key q → p = q) : KeyMate G := fun p q hk => by
  cases h p q hk; exact ⟨id, id⟩

theorem evalBounded_of_forall {G : Game P M} (h : ∀ q, -32511 ≤ G.eval q ∧ G.eval q ≤ 32511) (p : P) :
    EvalBoundedFrom G p := fun q _ => h q

theorem monoClock_default (l : Limits) (s : Nat) (b : Bool) :
    MonoClock ({ limits := l, stopAtPoll := s, cacheOff := b } : Env) := fun _ _ _ => Nat.le_refl _

/-- `32511` is the bound of `EvalBoundedFrom`: what quiescence returns inside its window is a static evaluation -/
abbrev QBand (a b r : Int) : Prop := Bnd (· ≤ 32511) (-32511 ≤ ·) a b r

theorem QBand.rng {a b r : Int} (h : QBand a b r) (ha : -32767 ≤ a) (hab : a < b) (hb : b ≤ 32767) : Rng r := by
  unfold Rng
  by_cases g : a < r
  · have := h.1 g; omega
  · have := h.2 (by omega); omega

/-- the loop of a quiescence node whose window has the lower end `a0`: alpha starts at `a`, which is the static
    evaluation if that is above `a0` -/
theorem qKids_band {G : Game P M} {root : P} {rec : P → Int → Int → St M → Int × St M}
    (hrec : ∀ c x y st, Reach G root c → -32767 ≤ x → x < y → y ≤ 32767 → QBand x y (rec c x y st).1)
    {p : P} (hp : Reach G root p) (ks : List M) (a0 a b : Int) (st : St M) (hks : ∀ m ∈ ks, m ∈ G.allMoves p)
    (hst : a0 < a → a ≤ 32511) (hlo : -32511 ≤ a) (hab : a < b) (hb : b ≤ 32767) :
    QBand a0 b ((qKids G rec p ks a b st).val b) := by
  rw [qKids_filter]
  refine qKids_ind (Post := fun out => QBand a0 b (out.val b))
    (Inv := fun _ al _ => a ≤ al ∧ al < b ∧ (a0 < al → al ≤ 32511))
    (fun m hm => mem_legalMovesOf.2 ⟨hks m (List.mem_filter.1 hm).1, (List.mem_filter.1 hm).2⟩) ?_
    ⟨Int.le_refl _, hab, hst⟩ (fun al _ ⟨h1, _, h3⟩ => ⟨h3, fun _ => by show -32511 ≤ al; omega⟩)
  intro done m _ al s r _ hm ⟨i1, i2, i3⟩ hr
  obtain ⟨_, r', -, -, e, h⟩ := pvsChild_neg (G := G) (rec := fun c x y _ => rec c x y) (p := p) (m := m) (depth := 0)
    (pvs := false) (upd := true) (st := s) (S := fun _ => True) (T := Rng) (A := fun _ v => v ≤ 32511)
    (B := fun _ v => -32511 ≤ v) (by omega) i2 hb (by omega) trivial (fun _ => satNeg_rng) (fun x y s' _ hx hxy hy _ e =>
      have h := hrec (G.play p m) x y s' (Reach.step hp (mem_legalMovesOf.1 hm).1) hx hxy hy
      e ▸ ⟨trivial, h.rng hx hxy hy, fun e' => by rw [e']; decide, h⟩)
  rw [show -r' = r.1 by rw [hr, e]] at h
  refine ⟨fun hcut => ⟨fun _ => ?_, fun g => absurd g (Int.lt_irrefl _)⟩, fun hlt => ⟨by omega, by omega, fun g => ?_⟩⟩
  · have := h.1 (by omega); show b ≤ 32511; omega
  · by_cases g' : al < r.1
    · have := h.1 g'; omega
    · have := i3 (by omega); omega

theorem quiesce_band {G : Game P M} {root : P} (he : EvalBoundedFrom G root) (env : Env) :
    ∀ (fuel : Nat) (p : P) (a b : Int) (st : St M), Reach G root p → -32767 ≤ a → a < b → b ≤ 32767 →
      QBand a b (quiesce env G fuel p a b st).1 := by
  intro fuel
  induction fuel with
  | zero => intro p a b st _ _ _ _; exact Bnd.of_both (by show (0 : Int) ≤ 32511; omega) (by show (-32511 : Int) ≤ 0; omega)
  | succ fuel ih =>
    intro p a b st hp ha hab hb
    have hev := he p hp
    rw [quiesce_succ]
    dsimp only
    by_cases hA : (abortCheck env st).1 = true
    · rw [if_pos hA]
      exact Bnd.of_both (by show (0 : Int) ≤ 32511; omega) (by show (-32511 : Int) ≤ 0; omega)
    rw [if_neg hA]
    by_cases hcut : G.eval p ≥ b
    · rw [if_pos hcut]
      exact ⟨fun _ => by show b ≤ 32511; omega, fun g => absurd g (Int.lt_irrefl _)⟩
    rw [if_neg hcut]
    -- the loop starts with alpha raised to the static evaluation, which is below `b`
    exact qKids_band (fun c x y st hc => ih c x y st hc) hp _ a _ b _
      (fun m hm => (List.mem_filter.1 (orderMoves_mem.1 hm)).1) (by split <;> omega) (by split <;> omega)
      (by split <;> omega) hb

theorem interrupted_leave {env : Env} {st : St M} (h : Interrupted env st) : Interrupted env (leave st) := h

theorem interrupted_stop {env : Env} (hc : MonoClock env) (s : St M) (h : Interrupted env s) :
    (abortCheck env (leave s)).1 = true :=
  abortCheck_of_interrupted env _ hc (interrupted_leave h)

/-- without a legal move the loop searches nothing -/
theorem abKids_nolegal (env : Env) (G : Game P M) (rec : P → Int → Int → Nat → St M → Int × St M) (c : P) (depth : Nat)
    (ms : List M) (alpha beta : Int) (best : M) (pvs : Bool) (n : Nat) (st : St M) (hnil : legalMovesOf G c = [])
    (hms : ∀ m ∈ ms, m ∈ G.allMoves c) :
    abKids env G rec c depth ms alpha beta best pvs n st = .done alpha best n st := by
  have : ms.filter (G.legal c) = [] := List.eq_nil_iff_forall_not_mem.2 fun m hm => by
    have := mem_legalMovesOf.2 ⟨hms m (List.mem_filter.1 hm).1, (List.mem_filter.1 hm).2⟩
    rw [hnil] at this
    exact List.not_mem_nil this
  rw [abKids_filter, this]
  rfl

/-- without a legal move at the root an iteration does nothing -/
theorem abStart_nolegal (env : Env) (G : Game P M) (p : P) (depth : Nat) (st : St M) (hnil : legalMovesOf G p = []) :
    abStart env G p depth st = st :=
  abStart_ind (Q := (· = st)) (Inv := fun _ _ _ _ s => s = st) (fun _ => rfl) (fun _ _ => rfl)
    (fun _ m _ _ _ _ _ _ _ _ _ hm => absurd hm (by rw [hnil]; exact List.not_mem_nil))
    (fun _ _ n s hn hs => by rw [hnil] at hn; rw [if_pos (show n = 0 from hn)]; exact hs)

/-- A mated node that is not declared a draw and has no entry under its key: unless its abort check fires, it returns
    the mate score of its ply from the empty move loop; it writes nothing. -/
theorem ab_mated (env : Env) (G : Game P M) (c : P) (hnil : legalMovesOf G c = []) (hchk : G.inCheck c = true)
    (hf : G.fifty c = false) (hr : G.repeated c = false) (fuel : Nat) (x y : Int) (d : Nat) (st : St M)
    (hnone : (probeSt env (abortCheck env st).2).tt[G.key c]? = none) :
    ab env G (fuel + 1) c x y d st =
      if (abortCheck env st).1 then (0, (abortCheck env st).2)
      else (MINS + (probeSt env (abortCheck env st).2).ply, probeSt env (abortCheck env st).2) := by
  rw [ab_succ]
  simp only [hf, hr, probe_of_none hnone, Bool.false_eq_true, if_false]
  unfold abBody
  simp only [hchk, if_true, Nat.succ_ne_zero, if_false]
  rw [abKids_nolegal env G _ c _ _ _ _ _ _ _ _ hnil fun m hm => orderMoves_mem.1 hm]
  simp only [if_true]

/-- the move to such a node, searched from ply `k ≤ 253` with the cache on: the score is that of a mate `k + 1` plies
    from the root, unless the search is interrupted.  (`253`: the child is at ply `≤ 254`, below the cap 255 at which the
    abort check fires without an interruption.) -/
theorem pvsChild_mated (env : Env) (hoff : env.cacheOff = false) (G : Game P M) (p : P) (m : M)
    (hnil : legalMovesOf G (G.play p m) = []) (hchk : G.inCheck (G.play p m) = true)
    (hf : G.fifty (G.play p m) = false) (hr : G.repeated (G.play p m) = false)
    (fuel : Nat) (a b : Int) (depth : Nat) (pvs upd : Bool) (st : St M) (hply : st.ply ≤ 253)
    (hnone : st.tt[G.key (G.play p m)]? = none) :
    (pvsChild G (ab env G (fuel + 1)) p m a b depth pvs upd st).1 = 32767 - (st.ply : Int) ∨
      Interrupted env (pvsChild G (ab env G (fuel + 1)) p m a b depth pvs upd st).2 := by
  -- each search of the child starts at ply `st.ply + 1` with the cache of `st`, and leaves them so
  have key : ∀ x y s r, s.ply = st.ply + 1 ∧ s.tt = st.tt → r = ab env G (fuel + 1) (G.play p m) x y (depth - 1) s →
      (r.2.ply = st.ply + 1 ∧ r.2.tt = st.tt) ∧
      (satNeg r.1 = 32767 - (st.ply : Int) ∨ Interrupted env (leave r.2)) := by
    intro x y s r ⟨h1, h2⟩ e
    have hfr := abortCheck_frame env s
    have hps : probeSt env (abortCheck env s).2 = (abortCheck env s).2 := by rw [probeSt_eq, hoff]; rfl
    rw [ab_mated env G _ hnil hchk hf hr fuel x y _ s (by rw [hps, hfr.tt, h2]; exact hnone), hps] at e
    subst e
    split
    · rename_i hA
      exact ⟨⟨hfr.ply.trans h1, hfr.tt.trans h2⟩,
        .inr (interrupted_leave (abortCheck_interrupts' env s (by omega) hA))⟩
    · refine ⟨⟨hfr.ply.trans h1, hfr.tt.trans h2⟩, .inl ?_⟩
      show satNeg (MINS + ((abortCheck env s).2.ply : Int)) = _
      rw [hfr.ply, h1, satNeg_eq]
      simp only [MINS]
      omega
  exact pvsChild_ind (S := fun s => s.ply = st.ply + 1 ∧ s.tt = st.tt)
    (Q := fun r => r.1 = 32767 - (st.ply : Int) ∨ Interrupted env r.2)
    ⟨rfl, rfl⟩ (fun s hs => ⟨(key _ _ s _ hs rfl).1, fun _ => (key _ _ s _ hs rfl).2⟩) (fun s hs => (key _ _ s _ hs rfl).2)

/-- the move left in the search state is the one answered on the `bestmove` line -/
theorem best_of_bestMove (env : Env) (G : Game P M) (p : P) (maxDepth : Option Nat) (tt0 : Table M) (m : M)
    (h : (search env G p maxDepth tt0).st.bestMove = some m) : (search env G p maxDepth tt0).best = some m := by
  have h1 : (iterate env G p (maxDepth.getD 255) (maxDepth.getD 255) 1 ({ tt := tt0 } : St M) []).1.bestMove = some m := h
  show (match (iterate env G p (maxDepth.getD 255) (maxDepth.getD 255) 1 ({ tt := tt0 } : St M) []).1.bestMove with
    | some m => some m
    | none => ((G.allMoves p).filter (G.legal p)).head?) = some m
  rw [h1]

/-- a claim that the reported move is good, against a run that reports a bad one -/
theorem refute_best {Good : M → Prop} {bm : Option M} {k : M} (h : ∃ m, bm = some m ∧ Good m) (hk : bm = some k)
    (hbad : ¬ Good k) : False := by
  obtain ⟨m, h1, h2⟩ := h
  rw [hk] at h1
  cases h1
  exact hbad h2

end RCE.Proofs.SearchMateCommon
