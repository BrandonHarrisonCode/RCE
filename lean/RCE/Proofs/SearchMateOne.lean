import RCE.Proofs.SearchMate
import RCE.Proofs.SearchPvNonempty
/-! # "With caching on, once an iteration has completed, the chosen move delivers checkmate if a mate in one exists"

`mate_in_one_played`: for every game, root, depth limit, environment (any limits, stop point, monotone clock; cache on)
and initial cache satisfying `MateOneInv`: if a mate in one exists and an info line was printed, the reported move
mates — and the final cache satisfies `MateOneInv` again, so the same holds for the next search of the position
(`mate_in_one_played_again`: after any number of such searches).  `mateOneInv_empty`: the empty cache qualifies.

How it goes.  A mated child at ply 1 returns `MINS + 1`, the root sees `MAXS` = its β.  From then on alpha = `MAXS`,
no later score exceeds it (`pvsChild_inR`), and the windows below are degenerate: the rest of the iteration may fill the cache
with unsound entries (`SearchMate.Counter`), so the clean-cache invariant `TInv` is lost.  What survives, by the frame
lemmas `ab_F` … `rootMove`, are the entries under the *protected* keys: nothing is ever stored for a mated
child (`MatedKeysFresh`), and the root's entry — exact, at least as deep as anything requested below the root — makes
every node with the root's key leave at the probe.  The completed iteration stores `⟨MAXS, d, exact, mating move⟩` for
the root; the next iteration (or search) orders that move first (`orderMoves_head`), finds no entry for its child
(`pvsChild_mated`), and is at `MAXS` at once, whatever else the cache holds.  On a clean cache without such an entry
(first search) the moves ordered before the first mating move are searched soundly (`SearchMate.ab_spec`) and
score `< MAXS` (`abStart_b1`).  Interruptions are sticky (`SearchAbort`): an interrupted first iteration prints
nothing; an interrupted later one keeps the reported move (its score `MAXS` cannot be exceeded) and the root's entry.

`Counter`: `KeyMate` alone is not enough as key hypothesis, and "cache on" is needed for the earlier searches too. -/
namespace RCE.Proofs.SearchMateOne
open RCE.Search RCE.Proofs.SearchDefs RCE.Proofs.SearchUnfold RCE.Proofs.SearchBest RCE.Proofs.SearchAbort
open RCE.Proofs.SearchRules RCE.Proofs.SearchMateCommon
open RCE.Proofs.SearchMate (Mated TInv StrictScores)

variable {P M : Type} [DecidableEq M]
set_option linter.unusedSectionVars false

/-- a mating move: legal, and the position after it has no legal move and is in check -/
def Mates (G : Game P M) (p : P) (m : M) : Prop := m ∈ legalMovesOf G p ∧ Mated G (G.play p m)

/-- the positions the search can visit strictly below the root `p` (children are entered by legal moves only) -/
inductive Tree (G : Game P M) (p : P) : P → Prop
  | child {m : M} : m ∈ legalMovesOf G p → Tree G p (G.play p m)
  | step {q : P} {m : M} : Tree G p q → m ∈ legalMovesOf G q → Tree G p (G.play q m)

/-- a node that never writes to the cache under its own key: it is declared a draw before the probe, or it has
    no legal move (`ab` returns before the insert when `legalCount = 0`, and a cut needs a legal move) -/
def Silent (G : Game P M) (q : P) : Prop := G.fifty q = true ∨ G.repeated q = true ∨ legalMovesOf G q = []

/-- the key hypothesis: no *writing* node of the tree below the root carries the key of a mated child of the root.
    For an injective key: a position equal to a mated position is mated.  (`KeyMate` only gives that such a node is
    lost — it may still have legal moves, and then it stores an entry that the mated child's probe would return in
    place of the mate score.) -/
def MatedKeysFresh (G : Game P M) (p : P) : Prop :=
  ∀ m, Mates G p m → ∀ q, Tree G p q → G.key q = G.key (G.play p m) → Silent G q

/-- the suggested form: the key of a mated child differs from the key of every position (of the tree) that has a legal move -/
theorem matedKeysFresh_of_ne {G : Game P M} {p : P}
    (h : ∀ m, Mates G p m → ∀ q, Tree G p q → legalMovesOf G q ≠ [] → G.key q ≠ G.key (G.play p m)) :
    MatedKeysFresh G p := by
  intro m hm q hq hkey
  refine .inr (.inr ?_)
  cases hl : legalMovesOf G q with
  | nil => rfl
  | cons x xs => exact absurd hkey (h m hm q hq (by rw [hl]; exact List.cons_ne_nil _ _))

theorem matedKeysFresh_of_inj {G : Game P M} {p : P}
    (h : ∀ m, Mates G p m → ∀ q, Tree G p q → G.key q = G.key (G.play p m) → q = G.play p m) :
    MatedKeysFresh G p := by
  intro m hm q hq hkey
  rw [h m hm q hq hkey]
  exact .inr (.inr hm.2.1)

/-- the mated children are not declared draws before the mate test ("no prior history, small half-move clock") -/
def NoDrawAtMate (G : Game P M) (p : P) : Prop :=
  ∀ m, Mates G p m → G.fifty (G.play p m) = false ∧ G.repeated (G.play p m) = false

/-- the static ordering scores of the root moves stay below the score reserved for the cached move -/
def OrderScoresOK (G : Game P M) (p : P) : Prop := ∀ m ∈ G.allMoves p, G.staticScore m + 2000 < 18446744073709551615

/-- no entry is stored under the key of a mated child of the root -/
def NoMatedEntry (G : Game P M) (p : P) (tt : Table M) : Prop := ∀ m, Mates G p m → tt[G.key (G.play p m)]? = none

/-- the cache invariant: (a) nothing is stored for a mated child of the root, and (b) the cache is clean in the sense
    of `SearchMate.lean` (mate-sound, no score `≤ −32767` / `≥ 32767`; the root may have any entry or none), or the
    root's entry is an exact one that names a mating move (what `alpha_beta_start` stores; every later probe of a node
    with the root's key then returns at once, so the entry survives until the next save) -/
def MateOneInv (G : Game P M) (p : P) (tt : Table M) : Prop :=
  NoMatedEntry G p tt ∧ (TInv G tt ∨ ∃ e, tt[G.key p]? = some e ∧ e.bound = .exact ∧ Mates G p e.best)

theorem mateOneInv_empty (G : Game P M) (p : P) : MateOneInv G p ({} : Table M) :=
  ⟨fun _ _ => Std.HashMap.getElem?_empty, .inl (SearchMate.tinv_empty G)⟩

/-! ## a forced mate is not a forced loss: the root's key is not that of a mated child -/

theorem root_key_ne {G : Game P M} (hk : KeyMate G) {p : P} {m : M} (hm : Mates G p m) :
    G.key (G.play p m) ≠ G.key p := by
  intro h
  have hl : Lost G (G.play p m) := Lost.mate hm.2.1 hm.2.2
  exact not_won_of_lost ((hk _ _ h).2 hl) (Won.some m hm.1 hl)

/-! ## the frame: no routine below the root writes under a protected key

The keys of the mated children are protected by `MatedKeysFresh`.  The root's key is protected (flag `R`) while the
root's entry is exact with a depth no smaller than any depth requested below the root (`RootExact`): a node with the
root's key then leaves at the probe. -/

/-- the protected cache keys: those of the mated children, and (if `R`) the root's -/
def ProtR (R : Prop) (G : Game P M) (p : P) (k : UInt64) : Prop :=
  (R ∧ k = G.key p) ∨ ∃ m, Mates G p m ∧ k = G.key (G.play p m)

/-- the frame of the protected keys: the entries under them are the same in both states -/
def KF (R : Prop) (G : Game P M) (p : P) (st st' : St M) : Prop := ∀ k, ProtR R G p k → st'.tt[k]? = st.tt[k]?

def RootExact (G : Game P M) (p : P) (D : Nat) (tt : Table M) : Prop :=
  ∃ e, tt[G.key p]? = some e ∧ e.bound = .exact ∧ D ≤ e.depth

theorem KF.refl (R : Prop) (G : Game P M) (p : P) (st : St M) : KF R G p st st := fun _ _ => rfl
theorem KF.trans {R : Prop} {G : Game P M} {p : P} {a b c : St M} (h1 : KF R G p a b) (h2 : KF R G p b c) : KF R G p a c :=
  fun k hk => (h2 k hk).trans (h1 k hk)
theorem KF.of_tt {R : Prop} {G : Game P M} {p : P} {st st' : St M} (h : st'.tt = st.tt) : KF R G p st st' :=
  fun k _ => by rw [h]

theorem KF.rootExact {R : Prop} {G : Game P M} {p : P} {D : Nat} {st st' : St M} (h : KF R G p st st')
    (hR : R → RootExact G p D st.tt) : R → RootExact G p D st'.tt := by
  intro r
  obtain ⟨e, he, hb, hd⟩ := hR r
  exact ⟨e, (h _ (.inl ⟨r, rfl⟩)).trans he, hb, hd⟩

theorem KF.insert {R : Prop} {G : Game P M} {p : P} (st : St M) {key : UInt64} (h : ¬ ProtR R G p key) (e : Entry M)
    (site : Nat) : KF R G p st (st.insert key e site) := by
  intro k hk
  show (st.tt.insert key e)[k]? = st.tt[k]?
  rw [Std.HashMap.getElem?_insert, if_neg (by rw [beq_iff_eq]; intro h'; subst h'; exact h hk)]

/-- the key of a node of the tree that gets past the draw tests and has a legal move is not protected -/
theorem not_prot {R : Prop} {G : Game P M} {p : P} (hK : MatedKeysFresh G p) {c : P} (hc : Tree G p c)
    (hf : G.fifty c = false) (hr : G.repeated c = false) (hroot : R → G.key c ≠ G.key p)
    (hl : legalMovesOf G c ≠ []) : ¬ ProtR R G p (G.key c) := by
  rintro (⟨r, h⟩ | ⟨m, hm, h⟩)
  · exact hroot r h
  · rcases hK m hm c hc h with h1 | h1 | h1
    · rw [hf] at h1; cases h1
    · rw [hr] at h1; cases h1
    · exact hl h1

def RecF (R : Prop) (D : Nat) (G : Game P M) (p : P) (rec : P → Int → Int → Nat → St M → Int × St M) : Prop :=
  ∀ c a b d st, Tree G p c → d ≤ D → (R → RootExact G p D st.tt) → KF R G p st (rec c a b d st).2

theorem pvsChild_F {R : Prop} {D : Nat} {G : Game P M} {p : P} {rec : P → Int → Int → Nat → St M → Int × St M}
    (hrec : RecF R D G p rec) (q : P) (m : M) (hc : Tree G p (G.play q m)) (alpha beta : Int) (depth : Nat)
    (hd : depth - 1 ≤ D) (pvs upd : Bool) (st : St M) (hR : R → RootExact G p D st.tt) :
    KF R G p st (pvsChild G rec q m alpha beta depth pvs upd st).2 := by
  have key : ∀ x y s, KF R G p st s → KF R G p st (rec (G.play q m) x y (depth - 1) s).2 := fun x y s hs =>
    hs.trans (hrec _ _ _ _ _ hc hd (hs.rootExact hR))
  exact pvsChild_ind (S := fun s => KF R G p st s) (Q := fun r => KF R G p st r.2)
    (KF.of_tt rfl) (fun s hs => ⟨key _ _ s hs, fun _ => key _ _ s hs⟩) (fun s hs => key _ _ s hs)

/-- the loop of a node with a legal move: its key is not protected, so the store after a cut is outside the frame -/
theorem abKids_F (env : Env) {R : Prop} {D : Nat} {G : Game P M} {p : P} {rec : P → Int → Int → Nat → St M → Int × St M}
    (hrec : RecF R D G p rec) (c : P) (hc : Tree G p c) (hins : ¬ ProtR R G p (G.key c)) (depth : Nat) (hd : depth - 1 ≤ D)
    (ms : List M) (alpha beta : Int) (best : M) (pvs : Bool) (n : Nat) (st : St M) (hms : ∀ m ∈ ms, m ∈ G.allMoves c)
    (hR : R → RootExact G p D st.tt) :
    KF R G p st (abKids env G rec c depth ms alpha beta best pvs n st).st := by
  rw [abKids_filter]
  refine abKids_ind (Post := fun out => KF R G p st out.st) (Inv := fun _ _ _ _ s => KF R G p st s)
    (fun m hm => mem_legalMovesOf.2 ⟨hms m (List.mem_filter.1 hm).1, (List.mem_filter.1 hm).2⟩) ?_
    (KF.refl R G p st) (fun _ _ _ _ h => h)
  intro done m _ al best pvs n' s r cc _ hlegal i1 hr hcc
  have hkf : KF R G p st cc.2 := by
    rw [hcc, hr]
    exact (i1.trans (pvsChild_F hrec c m (Tree.step hc hlegal) al beta depth hd pvs true s (i1.rootExact hR))).trans
      (KF.of_tt (abortCheck_frame env _).tt)
  exact ⟨fun _ => hkf, fun _ _ => hkf.trans ((KF.insert _ hins _ _).trans (KF.of_tt (storeKillers_tt _ _ _))),
    fun _ _ => hkf⟩

theorem ab_F (env : Env) (hoff : env.cacheOff = false) (R : Prop) (D : Nat) {G : Game P M} {p : P}
    (hK : MatedKeysFresh G p) : ∀ fuel, RecF R D G p (ab env G fuel) := by
  intro fuel
  induction fuel with
  | zero => intro c a b d st _ _ _; exact KF.refl R G p st
  | succ fuel ih =>
    intro c a0 b0 depth st hc hd hR
    have hf := (abortCheck_frame env st).tt
    refine ab_cases (Q := fun r => KF R G p st r.2) (fun cc hcc _ => hcc ▸ KF.of_tt hf)
      fun cc st2 hcc _ hfif hrep hst2 => ?_
    have hst2' : st2 = (abortCheck env st).2 := by rw [hst2, hcc, probeSt_eq, hoff]; rfl
    have hkf : KF R G p st st2 := hst2' ▸ KF.of_tt hf
    have hR2 : R → RootExact G p D st2.tt := by rw [hst2', hf]; exact hR
    refine ⟨fun _ _ => hkf, fun alpha beta d heq hdd => ⟨fun _ => hkf.trans (KF.of_tt (quiesce_tt env G _ _ _ _ _)),
      fun _ out hout => ?_⟩⟩
    by_cases hl : legalMovesOf G c = []
    · -- without a legal move the loop searches nothing, and the node stores nothing
      rw [abKids_nolegal env G _ c _ _ _ _ _ _ _ _ hl fun m hm => orderMoves_mem.1 hm] at hout
      subst hout
      exact ⟨fun _ => ite_pred (fun r : Int × St M => KF R G p st r.2) hkf hkf, fun hn => absurd rfl hn⟩
    -- a node with the root's key leaves at the probe: the root's entry is exact and deep enough
    have hroot : R → G.key c ≠ G.key p := fun r hkey => by
      obtain ⟨e, he, hb, hD⟩ := hR2 r
      rw [hkey, probe_of_exact he hb (Nat.le_trans hd hD)] at heq
      cases heq
    have hins := not_prot hK hc hfif hrep hroot hl
    have hk := abKids_F env ih c hc hins d (by rw [hdd]; split <;> omega)
      (orderMoves G ((st2.tt[G.key c]?).map (·.best)) (st2.killers.getD st2.ply (none, none)) (G.allMoves c))
      alpha beta ((G.allMoves c).headD G.defaultMove) false 0 st2 (fun m hm => orderMoves_mem.1 hm) hR2
    rw [← hout] at hk
    cases out with
    | abort s => exact hkf.trans hk
    | cut s => exact hkf.trans hk
    | done a' b' n st' =>
      exact ⟨fun _ => ite_pred (fun r : Int × St M => KF R G p st r.2) (hkf.trans hk) (hkf.trans hk),
        fun _ => hkf.trans (hk.trans (KF.insert _ hins _ _))⟩

theorem NoMatedEntry.of_KF {R : Prop} {G : Game P M} {p : P} {st st' : St M} (h : NoMatedEntry G p st.tt)
    (hkf : KF R G p st st') : NoMatedEntry G p st'.tt := fun m hm => (hkf _ (.inr ⟨m, hm, rfl⟩)).trans (h m hm)

/-- One move `m` of the root loop, searched in the state `s` the earlier moves have left; `r` is its result, `c` the
    abort check after it.  Protected entries, reported move and score are as in `st`, and a check that fires is an
    interruption.  Once alpha is `MAXS` with a mating best move it stays so, because no score exceeds `MAXS`; and a mating
    `m` brings that about: its child has no entry and returns the mate score of ply 1. -/
theorem rootMove (env : Env) (hc : MonoClock env) (hoff : env.cacheOff = false) (R : Prop) {G : Game P M} {p : P}
    (hK : MatedKeysFresh G p) (hD : NoDrawAtMate G p) (depth : Nat) {st s : St M} (hply : st.ply = 0)
    (hne : NoMatedEntry G p st.tt) (hkf : KF R G p st s) (hkeep : Keep st s) (hR : R → RootExact G p (depth - 1) st.tt)
    {m : M} (hl : m ∈ legalMovesOf G p) {alpha : Int} {best : M} {pvs : Bool} {r : Int × St M}
    (hr : r = pvsChild G (ab env G 255) p m alpha MAXS depth pvs false s) {c : Bool × St M} (hcc : c = abortCheck env r.2) :
    KF R G p st c.2 ∧ Keep st c.2 ∧ (c.1 = true → Interrupted env c.2) ∧
    (c.1 = false → (alpha = MAXS ∧ Mates G p best) ∨ (alpha < MAXS ∧ Mates G p m) →
      max alpha r.1 = MAXS ∧ Mates G p (if alpha < r.1 then m else best)) := by
  have hF : KF R G p s r.2 := hr ▸ pvsChild_F (ab_F env hoff R (depth - 1) hK 255) p m (Tree.child hl) alpha MAXS depth
    (Nat.le_refl _) pvs false s (hkf.rootExact hR)
  have hp : Keep s r.2 := hr ▸ (keep_across env G).pvsChild ((keep_across env G).ab 255) G p m alpha MAXS depth pvs false s
  have hf : Frame r.2 c.2 := hcc ▸ abortCheck_frame env r.2
  have hs0 : s.ply = 0 := hkeep.ply.trans hply
  refine ⟨hkf.trans (hF.trans (KF.of_tt hf.tt)), hkeep.trans (hp.trans (keep_of_frame hf)),
    hcc ▸ abortCheck_interrupts' env r.2 (by rw [hp.ply, hs0]; omega), fun hab h => ?_⟩
  rcases h with ⟨ha, hb⟩ | ⟨ha, hm⟩
  · have hle : r.1 ≤ MAXS := hr ▸ (pvsChild_inR _ _ _ _ _ _ _ _ _ _).2
    rw [ha, Int.max_eq_left hle, if_neg (by omega)]
    exact ⟨rfl, hb⟩
  · have h := pvsChild_mated env hoff G p m hm.2.1 hm.2.2 (hD m hm).1 (hD m hm).2 254 alpha MAXS depth pvs false s
      (by omega) (hne.of_KF hkf m hm)
    rw [← hr, hs0] at h
    have hs : r.1 = MAXS := h.resolve_right fun hI => by
      rw [hcc, abortCheck_of_interrupted env _ hc hI] at hab
      cases hab
    rw [hs, Int.max_eq_right (Int.le_of_lt ha), if_pos ha]
    exact ⟨rfl, hm⟩

/-- The invariant that joins the iterations once a mating move has been reported with the score `MAXS`, as it holds
    before the iteration of depth `d`:
    the root's entry is exact, names a mating move and is at least `d − 1` deep -/
structure J (G : Game P M) (p : P) (d : Nat) (st : St M) : Prop where
  ply : st.ply = 0
  nme : NoMatedEntry G p st.tt
  entry : ∃ e, st.tt[G.key p]? = some e ∧ e.bound = .exact ∧ Mates G p e.best ∧ d - 1 ≤ e.depth
  bm : ∃ m, st.bestMove = some m ∧ Mates G p m
  bs : st.bestScore = some MAXS

/-- `J` reads the ply, the protected entries and the reported move and score only -/
theorem J.of_kept {G : Game P M} {p : P} {d : Nat} {st st' : St M} (h : J G p d st) (hkf : KF True G p st st')
    (hk : Keep st st') : J G p d st' :=
  ⟨hk.ply.trans h.ply, h.nme.of_KF hkf, by rw [hkf _ (.inl ⟨trivial, rfl⟩)]; exact h.entry,
   by rw [hk.bestMove]; exact h.bm, by rw [hk.bestScore]; exact h.bs⟩

theorem J.weaken {G : Game P M} {p : P} {d d' : Nat} {st : St M} (h : J G p d st) (hd : d' ≤ d) : J G p d' st := by
  obtain ⟨e, h1, h2, h3, h4⟩ := h.entry
  exact ⟨h.ply, h.nme, ⟨e, h1, h2, h3, by omega⟩, h.bm, h.bs⟩

/-- the save of a completed iteration that ended with alpha at `MAXS` and a mating best move: unless the abort check
    before it fires, the root's entry is as `J` wants it for the next depth (the root's key is not that of a mated
    child, `root_key_ne`) -/
theorem rootSave_J (env : Env) {G : Game P M} {p : P} (hk : KeyMate G) (depth : Nat) {b : M}
    (hb : Mates G p b) {s : St M} (hply : s.ply = 0) (hne : NoMatedEntry G p s.tt) :
    ((rootSave env G p depth MAXS b s).tt = s.tt ∧ Keep s (rootSave env G p depth MAXS b s) ∧
      Interrupted env (rootSave env G p depth MAXS b s)) ∨ J G p (depth + 1) (rootSave env G p depth MAXS b s) := by
  unfold rootSave
  have hf := abortCheck_frame env s
  split
  · rename_i hab
    exact .inl ⟨hf.tt, keep_of_frame hf, abortCheck_interrupts' env s (by omega) hab⟩
  · -- the state the check leaves as a variable: unifying its fields with those of the saved state would unfold the check
    generalize (abortCheck env s).2 = c at hf ⊢
    have hroot : ¬ ProtR False G p (G.key p) := by
      rintro (⟨f, _⟩ | ⟨m, hm, h⟩)
      · exact f
      · exact root_key_ne hk hm h.symm
    exact .inr ⟨hf.ply.trans hply, hne.of_KF ((KF.of_tt hf.tt).trans (KF.insert _ hroot _ 1)),
      ⟨⟨MAXS, depth, .exact, b⟩, Std.HashMap.getElem?_insert_self, rfl, hb, by show depth + 1 - 1 ≤ depth; omega⟩,
      ⟨b, rfl, hb⟩, rfl⟩

/-- an iteration started with an exact root entry, at least `depth − 1` deep, that names a mating move: that move is
    searched first and scores `MAXS`; the rest of the loop cannot change alpha, the best move or a protected entry.
    An interrupted iteration leaves what `J` reads as it was. -/
theorem abStart_b2 (env : Env) (hc : MonoClock env) (hoff : env.cacheOff = false) {G : Game P M} {p : P}
    (hk : KeyMate G) (hK : MatedKeysFresh G p) (hD : NoDrawAtMate G p) (hO : OrderScoresOK G p) (depth : Nat) {st : St M}
    (hply : st.ply = 0) (hne : NoMatedEntry G p st.tt)
    (hent : ∃ e, st.tt[G.key p]? = some e ∧ e.bound = .exact ∧ Mates G p e.best ∧ depth - 1 ≤ e.depth) :
    (Interrupted env (abStart env G p depth st) ∧ (J G p depth st → J G p depth (abStart env G p depth st))) ∨
    J G p (depth + 1) (abStart env G p depth st) := by
  obtain ⟨e, hE, hEx, hEm, hEd⟩ := hent
  have hRE : True → RootExact G p (depth - 1) st.tt := fun _ => ⟨e, hE, hEx, hEd⟩
  obtain ⟨rest0, hord⟩ := orderMoves_head G e.best (st.killers.getD st.ply (none, none)) (G.allMoves p)
    (mem_legalMovesOf.1 hEm.1).1 hO
  have hfirst : (orderMoves G ((st.tt[G.key p]?).map (·.best)) (st.killers.getD st.ply (none, none))
      (G.allMoves p)).filter (G.legal p) = e.best :: rest0.filter (G.legal p) := by
    rw [hE, Option.map_some, hord, List.filter_cons_of_pos (mem_legalMovesOf.1 hEm.1).2]
  refine abStart_ind_ne (Q := fun s' => (Interrupted env s' ∧ (J G p depth st → J G p depth s')) ∨ J G p (depth + 1) s')
    (Inv := fun done alpha best _ s => KF True G p st s ∧ Keep st s ∧
      ((done = [] ∧ alpha = MINS) ∨ (alpha = MAXS ∧ Mates G p best)))
    (List.ne_nil_of_mem hEm.1) (fun _ => ⟨KF.refl _ _ _ _, ⟨rfl, rfl, rfl⟩, .inl ⟨rfl, rfl⟩⟩) ?_ ?_
  · intro done m rest alpha best pvs n s r c hL hlegal ⟨i1, i2, i3⟩ hr hcc
    obtain ⟨hkf, hkeep, hint, hstep⟩ := rootMove env hc hoff True hK hD depth hply hne i1 i2 hRE hlegal (best := best) hr hcc
    refine ⟨fun hab => .inl ⟨SearchPvNonempty.rootAbort_interrupted _ _ (hint hab), fun hJ => ?_⟩,
      fun hab => ⟨hkf, hkeep, .inr (hstep hab ?_)⟩⟩
    · -- the reported score is `MAXS` already, and alpha does not exceed it
      have : rootAbort alpha best c.2 = c.2 := by
        rcases rootAbort_cases alpha best c.2 with h | ⟨s0, h1, h2, _⟩
        · exact h
        · rw [hkeep.bestScore, hJ.bs] at h1
          cases h1
          rcases i3 with ⟨_, ha⟩ | ⟨ha, _⟩ <;> rw [ha] at h2 <;> exact absurd h2 (by decide)
      rw [this]
      exact hJ.of_kept hkf hkeep
    · rcases i3 with ⟨hd, ha⟩ | h2
      · rw [hd, List.nil_append, hfirst] at hL
        cases hL
        exact .inr ⟨by rw [ha]; decide, hEm⟩
      · exact .inl h2
  · intro alpha best n s hn ⟨i1, i2, i3⟩
    obtain ⟨ha, hb⟩ : alpha = MAXS ∧ Mates G p best := i3.resolve_left fun ⟨hd, _⟩ => by rw [hfirst] at hd; cases hd
    subst ha
    exact (rootSave_J env hk depth hb (i2.ply.trans hply) (hne.of_KF i1)).imp
      (fun g => ⟨g.2.2, fun hJ => hJ.of_kept (i1.trans (KF.of_tt g.1)) (i2.trans g.2.1)⟩) id

/-- an iteration started on a clean cache: the moves before the first mating one are searched soundly and score
    below `MAXS`, the mating one scores `MAXS`, and from then on nothing changes alpha or the best move -/
theorem abStart_b1 (env : Env) (hc : MonoClock env) (hoff : env.cacheOff = false) {G : Game P M} {p : P}
    (hk : KeyMate G) (he : EvalBoundedFrom G p) (hK : MatedKeysFresh G p) (hD : NoDrawAtMate G p)
    (hex : ∃ m, Mates G p m) (depth : Nat) {st : St M}
    (hply : st.ply = 0) (hT : TInv G st.tt) (hne : NoMatedEntry G p st.tt) :
    Interrupted env (abStart env G p depth st) ∨ J G p (depth + 1) (abStart env G p depth st) := by
  obtain ⟨mm, hmm⟩ := hex
  refine abStart_ind_ne (Q := fun s' => Interrupted env s' ∨ J G p (depth + 1) s')
    (Inv := fun done alpha best _ s => KF False G p st s ∧ Keep st s ∧
      ((TInv G s.tt ∧ -32768 ≤ alpha ∧ alpha < 32767 ∧ ∀ x ∈ done, ¬ Mates G p x) ∨ (alpha = MAXS ∧ Mates G p best)))
    (List.ne_nil_of_mem hmm.1) (fun _ => ⟨KF.refl _ _ _ _, ⟨rfl, rfl, rfl⟩,
      .inl ⟨hT, by decide, by decide, fun _ h => absurd h List.not_mem_nil⟩⟩) ?_ ?_
  · intro done m rest alpha best pvs n s r c _ hlegal ⟨i1, i2, i3⟩ hr hcc
    obtain ⟨hkf, hkeep, hint, hstep⟩ := rootMove env hc hoff False hK hD depth hply hne i1 i2 (fun r => r.elim) hlegal
      (best := best) hr hcc
    refine ⟨fun hab => .inl (SearchPvNonempty.rootAbort_interrupted _ _ (hint hab)), fun hab => ⟨hkf, hkeep, ?_⟩⟩
    rcases i3 with ⟨hT', ha, hb, hno⟩ | h2
    · by_cases hM : Mates G p m
      · exact .inr (hstep hab (.inr ⟨hb, hM⟩))
      · obtain ⟨_, _, hT1, hrng, _⟩ := pvsMove_bnd (Stop := fun _ => False) (I := TInv G) (fun _ h => h.elim) ha hb (Int.le_refl _)
          (by decide) hT' (fun x y s' hx hxy hy hs' => by
            rw [i2.ply, hply] at hs' ⊢
            exact SearchMate.child_spec (SearchMate.ab_spec hk p he env 255) Reach.refl hlegal (by omega)
              (fun _ h => hM ⟨hlegal, h⟩) (depth - 1) x y s' hx hxy hy hs') hr hcc
        unfold Rng at hrng
        refine .inl ⟨hT1, by omega, by omega, fun x hx => ?_⟩
        rcases List.mem_append.1 hx with hx | hx
        · exact hno x hx
        · rw [List.mem_singleton.1 hx]; exact hM
    · exact .inr (hstep hab (.inl h2))
  · intro alpha best n s hn ⟨i1, i2, i3⟩
    obtain ⟨ha, hb⟩ : alpha = MAXS ∧ Mates G p best := i3.resolve_left fun ⟨_, _, _, hno⟩ =>
      hno mm ((ordered_legal_perm G p _ _).mem_iff.2 hmm.1) hmm
    subst ha
    exact (rootSave_J env hk depth hb (i2.ply.trans hply) (hne.of_KF i1)).imp (fun g => g.2.2) id

/-- once an info line has been printed, the state of the search is as `J` says: the root's entry is exact and names a
    mating move, the reported move mates, the reported score is `MAXS` -/
theorem search_J (env : Env) (G : Game P M) (p : P) (maxDepth : Option Nat) (tt0 : Table M)
    (hc : MonoClock env) (hoff : env.cacheOff = false) (he : EvalBoundedFrom G p) (hk : KeyMate G)
    (hK : MatedKeysFresh G p) (hD : NoDrawAtMate G p) (hO : OrderScoresOK G p)
    (hex : ∃ m, Mates G p m) (hinv : MateOneInv G p tt0) (hdone : (search env G p maxDepth tt0).infos ≠ []) :
    J G p 0 (search env G p maxDepth tt0).st := by
  obtain ⟨d', _, hfin, hinfos⟩ := iterate_rule hc (G := G) (p := p) (md := maxDepth.getD 255)
    (Pre := fun d st => (d = 1 ∧ st.ply = 0 ∧ MateOneInv G p st.tt) ∨ (2 ≤ d ∧ J G p d st))
    (Fin := fun d st => 2 ≤ d → J G p 0 st)
    (fun d st h hd => h.elim (fun h => absurd h.1 (by omega)) (fun h => h.2.weaken (Nat.zero_le _)))
    (fun d st st' hf => ⟨fun h => h.imp (fun ⟨h1, h2, h3⟩ => ⟨h1, hf.ply.trans h2, hf.tt ▸ h3⟩)
      (fun ⟨h1, h2⟩ => ⟨h1, h2.of_kept (KF.of_tt hf.tt) (keep_of_frame hf)⟩),
      fun h hd => (h hd).of_kept (KF.of_tt hf.tt) (keep_of_frame hf)⟩)
    (fun d st h => by
      rcases h with ⟨rfl, hply, hinv⟩ | ⟨hd, hJ⟩
      · have : Interrupted env (abStart env G p 1 st) ∨ J G p 2 (abStart env G p 1 st) := by
          rcases hinv.2 with hT | ⟨e, h1, h2, h3⟩
          · exact abStart_b1 env hc hoff hk he hK hD hex 1 hply hT hinv.1
          · exact (abStart_b2 env hc hoff hk hK hD hO 1 hply hinv.1 ⟨e, h1, h2, h3, Nat.zero_le _⟩).imp (fun h => h.1) id
        exact this.imp (fun h => ⟨h, fun hd => absurd hd (by omega)⟩) (fun h => .inr ⟨Nat.le_refl _, h⟩)
      · exact (abStart_b2 env hc hoff hk hK hD hO d hJ.ply hJ.nme hJ.entry).imp
          (fun h => ⟨h.1, fun _ => (h.2 hJ).weaken (Nat.zero_le _)⟩) (fun h => .inr ⟨by omega, h⟩))
    (maxDepth.getD 255) 1 ({ tt := tt0 } : St M) [] (.inl ⟨rfl, rfl, hinv⟩)
  obtain ⟨i, hi⟩ := List.exists_mem_of_ne_nil _ hdone
  rcases hinfos i hi with h | h
  · exact absurd h List.not_mem_nil
  · have hJ := hfin (by omega)
    exact ⟨hJ.ply, hJ.nme, hJ.entry, hJ.bm, hJ.bs⟩

/-- With the cache on: if a mate in one exists at the root and at least one iteration completed (an info line was
    printed), the chosen move delivers checkmate, and the cache satisfies the invariant again — so the statement
    applies to the next search of the same position (at any depth, under any limits) started with that cache.  What
    `hoff`, `hK`, `hD`, `hO` are needed for: header of `Props/C12.lean`, first completeness clause. -/
theorem mate_in_one_played (env : Env) (G : Game P M) (p : P) (maxDepth : Option Nat) (tt0 : Table M)
    (hc : MonoClock env) (hoff : env.cacheOff = false) (he : EvalBoundedFrom G p) (hk : KeyMate G)
    (hK : MatedKeysFresh G p) (hD : NoDrawAtMate G p) (hO : OrderScoresOK G p)
    (hex : ∃ m, Mates G p m) (hinv : MateOneInv G p tt0) (hdone : (search env G p maxDepth tt0).infos ≠ []) :
    (∃ m, (search env G p maxDepth tt0).st.bestMove = some m ∧ Mates G p m) ∧
    MateOneInv G p (search env G p maxDepth tt0).st.tt := by
  have hJ := search_J env G p maxDepth tt0 hc hoff he hk hK hD hO hex hinv hdone
  obtain ⟨e, h1, h2, h3, _⟩ := hJ.entry
  exact ⟨hJ.bm, hJ.nme, .inr ⟨e, h1, h2, h3⟩⟩

/-- the reported score is that of a mate in one -/
theorem mate_in_one_score (env : Env) (G : Game P M) (p : P) (maxDepth : Option Nat) (tt0 : Table M)
    (hc : MonoClock env) (hoff : env.cacheOff = false) (he : EvalBoundedFrom G p) (hk : KeyMate G)
    (hK : MatedKeysFresh G p) (hD : NoDrawAtMate G p) (hO : OrderScoresOK G p)
    (hex : ∃ m, Mates G p m) (hinv : MateOneInv G p tt0) (hdone : (search env G p maxDepth tt0).infos ≠ []) :
    (search env G p maxDepth tt0).st.bestScore = some MAXS :=
  (search_J env G p maxDepth tt0 hc hoff he hk hK hD hO hex hinv hdone).bs

/-- one `go` command: its environment and depth limit -/
structure Go where
  env : Env
  maxDepth : Option Nat

/-- the cache after a sequence of searches of `p`, each started with the cache the previous one left -/
def cacheAfter (G : Game P M) (p : P) : List Go → Table M → Table M
  | [], tt => tt
  | g :: gs, tt => cacheAfter G p gs (search g.env G p g.maxDepth tt).st.tt

theorem cacheAfter_inv {G : Game P M} {p : P} {Inv : Table M → Prop} {H : Go → Prop}
    (hstep : ∀ g tt, H g → Inv tt → Inv (search g.env G p g.maxDepth tt).st.tt) :
    ∀ (gs : List Go) (tt0 : Table M), Inv tt0 → (∀ g ∈ gs, H g) → Inv (cacheAfter G p gs tt0)
  | [], _, h, _ => h
  | g :: gs, tt0, h, hgs =>
    cacheAfter_inv hstep gs _ (hstep g tt0 (hgs g List.mem_cons_self) h) fun x hx => hgs x (List.mem_cons_of_mem _ hx)

/-- every search of the sequence printed an info line -/
def AllReported (G : Game P M) (p : P) : List Go → Table M → Prop
  | [], _ => True
  | g :: gs, tt => (search g.env G p g.maxDepth tt).infos ≠ [] ∧ AllReported G p gs (search g.env G p g.maxDepth tt).st.tt

/-- after any number of earlier searches of the position (other depths, other limits, monotone clocks, cache on) that
    each completed an iteration, starting from a cache that satisfies the invariant — the empty one, for instance —
    a further search that completes an iteration chooses a mating move -/
theorem mate_in_one_played_again (G : Game P M) (p : P) (he : EvalBoundedFrom G p) (hk : KeyMate G)
    (hK : MatedKeysFresh G p) (hD : NoDrawAtMate G p) (hO : OrderScoresOK G p) (hex : ∃ m, Mates G p m) :
    ∀ (gs : List Go) (tt0 : Table M), MateOneInv G p tt0 →
      (∀ g ∈ gs, MonoClock g.env ∧ g.env.cacheOff = false) → AllReported G p gs tt0 →
      MateOneInv G p (cacheAfter G p gs tt0) ∧
      ∀ (env : Env) (maxDepth : Option Nat), MonoClock env → env.cacheOff = false →
        (search env G p maxDepth (cacheAfter G p gs tt0)).infos ≠ [] →
        ∃ m, (search env G p maxDepth (cacheAfter G p gs tt0)).st.bestMove = some m ∧ Mates G p m := by
  intro gs
  induction gs with
  | nil =>
    intro tt0 hinv _ _
    exact ⟨hinv, fun env md hc hoff hdone =>
      (mate_in_one_played env G p md tt0 hc hoff he hk hK hD hO hex hinv hdone).1⟩
  | cons g gs ih =>
    intro tt0 hinv hgs hrep
    have hg := hgs g List.mem_cons_self
    have h1 := mate_in_one_played g.env G p g.maxDepth tt0 hg.1 hg.2 he hk hK hD hO hex hinv hrep.1
    exact ih _ h1.2 (fun x hx => hgs x (List.mem_cons_of_mem _ hx)) hrep.2

/-- the first search of a position, from the empty cache -/
theorem mate_in_one_played_first (env : Env) (G : Game P M) (p : P) (maxDepth : Option Nat)
    (hc : MonoClock env) (hoff : env.cacheOff = false) (he : EvalBoundedFrom G p) (hk : KeyMate G)
    (hK : MatedKeysFresh G p) (hD : NoDrawAtMate G p) (hO : OrderScoresOK G p)
    (hex : ∃ m, Mates G p m) (hdone : (search env G p maxDepth {}).infos ≠ []) :
    ∃ m, (search env G p maxDepth {}).st.bestMove = some m ∧ Mates G p m :=
  (mate_in_one_played env G p maxDepth {} hc hoff he hk hK hD hO hex (mateOneInv_empty G p) hdone).1

/-! ## why the extra hypotheses: two counterexamples

Games on `Fin 8` in the style of `SearchMate.Counter` (a move is its target square, every evaluation is 0). -/
namespace Counter
open RCE.Proofs.SearchMate.Counter (mkGame key_inj keyMate evalBounded)

/-! ### `KeyMate` does not suffice: a lost position with the key of a mated child

0 = root: 2, 1 (mates at once);  2 → 3 → 5 → 6 → 7 with 7 mated, every position from 1 on is in check, so the check
extensions let a depth-1 search see the whole line: the move 2 mates in three.  Position 5 (lost in two) has the key of
position 1 (mated): `KeyMate` holds.  The entry stored for 5 (`−32763`, exact) answers the probe of 1: the move 1 scores
`32763`, no more than the move 2 searched before it. -/

def mv3 : Fin 8 → List (Fin 8) := fun p => match p with | 0 => [2, 1] | 2 => [3] | 3 => [5] | 5 => [6] | 6 => [7] | _ => []
def ck3 : Fin 8 → Bool := fun p => p != 0 && p != 4

def G3 : Game (Fin 8) (Fin 8) :=
  { mkGame mv3 ck3 with key := fun p => if p = 5 then 1 else UInt64.ofNat p.val }

theorem G3_keyMate : KeyMate G3 := keyMate_of_solver G3 3 (by decide) (by decide)

theorem G3_mates_1 : Mates G3 0 1 := by unfold Mates Mated; decide

theorem G3_not_mates_2 : ¬ Mates G3 0 2 := by unfold Mates Mated; decide

/-- the claim without a key hypothesis beyond `KeyMate`, first search from the empty cache.  FALSE. -/
def mate_in_one_keyMate_only_statement : Prop :=
  ∀ (P M : Type) [DecidableEq M] (env : Env) (G : Game P M) (p : P) (maxDepth : Option Nat),
    MonoClock env → env.cacheOff = false → EvalBoundedFrom G p → KeyMate G → NoDrawAtMate G p → OrderScoresOK G p →
    (∃ m, Mates G p m) → (search env G p maxDepth {}).infos ≠ [] →
    ∃ m, (search env G p maxDepth {}).st.bestMove = some m ∧ Mates G p m

def r3 := search {} G3 0 (some 1) {}

/-- info: (1, some 2, some 32763) -/
#guard_msgs in
#eval (r3.infos.length, r3.st.bestMove, r3.st.bestScore)

/-- `mate_in_one_keyMate_only_statement` fails, given the run displayed by the `#eval` above -/
theorem mate_in_one_keyMate_only_refuted (hrun : r3.infos ≠ [] ∧ r3.st.bestMove = some 2) :
    ¬ mate_in_one_keyMate_only_statement :=
  fun h => refute_best (h (Fin 8) (Fin 8) {} G3 0 (some 1) (monoClock_default _ _ _) rfl
    (fun q _ => ⟨by show (-32511 : Int) ≤ 0; omega, by show (0 : Int) ≤ 32511; omega⟩) G3_keyMate
    (fun _ _ => ⟨rfl, rfl⟩) (fun _ _ => by show 0 + 2000 < 18446744073709551615; omega) ⟨1, G3_mates_1⟩ hrun.1)
    hrun.2 G3_not_mates_2

/-! ### "with caching on" cannot be dropped for the earlier searches

0 = root: 2, 1 (mates at once);  2 (in check) → 3 → 4, and 4 has no move.  A first search with the cache off is stopped
during its second iteration (at its 17th poll of the stop flag): the root's entry has been emptied away, the bogus
`⟨32767, lower⟩` entry for position 3 is all the cache holds.  The next search (cache on, depth 1) starts with the move 2 and reads "mate". -/

def mv4 : Fin 8 → List (Fin 8) := fun p => match p with | 0 => [2, 1] | 2 => [3] | 3 => [4] | _ => []
def ck4 : Fin 8 → Bool := fun p => p == 1 || p == 2

def G4 : Game (Fin 8) (Fin 8) := mkGame mv4 ck4

theorem G4_mates_1 : Mates G4 0 1 := by unfold Mates Mated; decide

theorem G4_not_mates_2 : ¬ Mates G4 0 2 := by unfold Mates Mated; decide

theorem G4_matedKeysFresh : MatedKeysFresh G4 0 := matedKeysFresh_of_inj fun _ _ q _ h => key_inj _ _ q _ h

/-- the claim for a second search (cache on) after a first one that ran with the cache off.  FALSE. -/
def mate_in_one_any_cache_mode_statement : Prop :=
  ∀ (P M : Type) [DecidableEq M] (env1 env2 : Env) (G : Game P M) (p : P) (d1 d2 : Option Nat),
    MonoClock env1 → MonoClock env2 → env2.cacheOff = false → EvalBoundedFrom G p → KeyMate G → MatedKeysFresh G p →
    NoDrawAtMate G p → OrderScoresOK G p → (∃ m, Mates G p m) →
    (search env1 G p d1 {}).infos ≠ [] → (search env2 G p d2 (search env1 G p d1 {}).st.tt).infos ≠ [] →
    ∃ m, (search env2 G p d2 (search env1 G p d1 {}).st.tt).st.bestMove = some m ∧ Mates G p m

def r41 := search { stopAtPoll := 17, cacheOff := true } G4 0 (some 4) {}
def r42 := search {} G4 0 (some 1) r41.st.tt

/-- info: (1, some 1, [(3, 32767, 1, RCE.Search.Bound.lower, 4)], 1, some 2, some 32767) -/
#guard_msgs in
#eval (r41.infos.length, r41.st.bestMove, r41.st.tt.toList.map (fun (k, e) => (k, e.score, e.depth, e.bound, e.best)),
  r42.infos.length, r42.st.bestMove, r42.st.bestScore)

/-- `mate_in_one_any_cache_mode_statement` fails, given the runs displayed by the `#eval` above -/
theorem mate_in_one_any_cache_mode_refuted (hrun : r41.infos ≠ [] ∧ r42.infos ≠ [] ∧ r42.st.bestMove = some 2) :
    ¬ mate_in_one_any_cache_mode_statement :=
  fun h => refute_best (h (Fin 8) (Fin 8) { stopAtPoll := 17, cacheOff := true } {} G4 0 (some 4) (some 1)
    (monoClock_default _ _ _) (monoClock_default _ _ _) rfl (evalBounded _ _ _) (keyMate _ _) G4_matedKeysFresh
    (fun _ _ => ⟨rfl, rfl⟩) (fun _ _ => by show 0 + 2000 < 18446744073709551615; omega) ⟨1, G4_mates_1⟩
    hrun.1 hrun.2.1) hrun.2.2 G4_not_mates_2

end Counter

end RCE.Proofs.SearchMateOne

#print axioms RCE.Proofs.SearchMateOne.mate_in_one_played
#print axioms RCE.Proofs.SearchMateOne.mate_in_one_played_again
#print axioms RCE.Proofs.SearchMateOne.mateOneInv_empty
#print axioms RCE.Proofs.SearchMateOne.mate_in_one_played_first
#print axioms RCE.Proofs.SearchMateOne.Counter.mate_in_one_keyMate_only_refuted
#print axioms RCE.Proofs.SearchMateOne.Counter.mate_in_one_any_cache_mode_refuted
