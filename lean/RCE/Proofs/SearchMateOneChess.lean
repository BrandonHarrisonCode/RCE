import RCE.Proofs.SearchMateOne
import RCE.Proofs.SearchInfo
import RCE.Model.Search
/-! # `mate_in_one_played`: the chess instance of `OrderScoresOK`, and a witness that its hypotheses are satisfiable

1. `chess_orderScoresOK`: for the chess game the static ordering score of *every* move (not only the generated ones)
   stays far below the score `2^64 − 1` reserved for the cached move.  The bound is stated in terms of the generated
   constants (`Gen.bonusCapture`, …) and re-checked by `decide` whenever they are regenerated.
2. `mate_in_one_nonvacuous`: a five-position game (`G5`) for which every hypothesis of `mate_in_one_played` is proved,
   so the theorem is not vacuous; its conclusion is instantiated for a depth-2 search from the empty cache. -/
namespace RCE.Proofs.SearchMateOneChess
open RCE RCE.Search RCE.Gen RCE.Proofs.SearchDefs RCE.Proofs.SearchMateOne
open RCE.Proofs.SearchMate (Mated)
open RCE.Proofs.SearchMate.Counter (mkGame key_inj keyMate evalBounded)

/-- `position(..)` is an index into the table (or 0) -/
theorem kindPos_le (l : List Nat) (k : Kind) : kindPos l k ≤ l.length := by
  unfold kindPos
  split
  · cases h : l.idxOf? k.pk.idx with
    | none => exact Nat.zero_le _
    | some i => exact Nat.le_of_lt (List.findIdx?_eq_some_iff_getElem.1 h).1
  · exact Nat.zero_le _

/-- the uniform bound: capture bonus + the largest victim/attacker index + promotion bonus -/
def scoreBound : Nat :=
  bonusCapture + (victimsAscending.length * attackersDescending.length + attackersDescending.length) + bonusPromotion

theorem plyStaticScore_le (m : Ply) : plyStaticScore m ≤ scoreBound := by
  have hpro : (if m.promoted.isSome then bonusPromotion else 0) ≤ bonusPromotion := by split <;> omega
  unfold plyStaticScore scoreBound
  cases m.captured with
  | none => dsimp only; omega
  | some v =>
    have hv := Nat.mul_le_mul_right attackersDescending.length (kindPos_le victimsAscending v)
    have ha := kindPos_le attackersDescending m.piece
    dsimp only
    omega

/-- re-checked against the regenerated constants -/
theorem scoreBound_small : scoreBound + 2000 < 18446744073709551615 := by decide

theorem chess_orderScoresOK (b : Board) : OrderScoresOK chessGame b := fun m _ => by
  have h1 := plyStaticScore_le m
  have h2 := scoreBound_small
  show plyStaticScore m + 2000 < 18446744073709551615
  omega

/-- the game that shows `mate_in_one_played` not vacuous (`SearchMateAvoid.Counter.G5` is another game, the
    counter-example of finding D10).  0 = root: 2, 1 (in this order: the mating move is not generated first);  1 has no
    move and is in check (mated);  2 → 3, a quiet leaf -/
def G5 : Game (Fin 8) (Fin 8) :=
  mkGame (fun p => match p with | 0 => [2, 1] | 2 => [3] | _ => []) (fun p => p == 1)

theorem G5_mates : Mates G5 0 1 := by unfold Mates Mated; decide

theorem G5_matedKeysFresh : MatedKeysFresh G5 0 :=
  matedKeysFresh_of_inj fun _ _ q _ h => key_inj _ _ q _ h

theorem G5_noDrawAtMate : NoDrawAtMate G5 0 := fun _ _ => ⟨rfl, rfl⟩

theorem G5_orderScoresOK : OrderScoresOK G5 0 := by
  intro m _
  show (0 : Nat) + 2000 < 18446744073709551615
  omega

theorem unlimited_default : Unlimited ({} : Env) := ⟨rfl, rfl, rfl, rfl⟩

theorem G5_infos : (search {} G5 0 (some 2) {}).infos ≠ [] := by
  intro h
  have hd := RCE.Proofs.SearchInfo.depth_limit_complete' {} G5 0 2 {} unlimited_default (by omega)
  rw [h] at hd
  exact absurd hd (by decide)

/-- all hypotheses of `mate_in_one_played` hold for `G5` at root 0, and its conclusion follows -/
theorem mate_in_one_nonvacuous : ∃ m, (search {} G5 0 (some 2) {}).st.bestMove = some m ∧ Mates G5 0 m :=
  (mate_in_one_played {} G5 0 (some 2) {} (RCE.Proofs.SearchMateCommon.monoClock_default _ _ _) rfl (evalBounded _ _ 0) (keyMate _ _)
    G5_matedKeysFresh G5_noDrawAtMate G5_orderScoresOK ⟨1, G5_mates⟩ (mateOneInv_empty G5 0) G5_infos).1

/-- the only mating move is 1: the search plays it -/
theorem mate_in_one_nonvacuous' : (search {} G5 0 (some 2) {}).st.bestMove = some 1 := by
  obtain ⟨m, h1, h2⟩ := mate_in_one_nonvacuous
  have : ∀ m, Mates G5 0 m → m = 1 := by unfold Mates Mated; decide
  rw [← this m h2]
  exact h1

end RCE.Proofs.SearchMateOneChess

#print axioms RCE.Proofs.SearchMateOneChess.chess_orderScoresOK
#print axioms RCE.Proofs.SearchMateOneChess.mate_in_one_nonvacuous
#print axioms RCE.Proofs.SearchMateOneChess.mate_in_one_nonvacuous'
