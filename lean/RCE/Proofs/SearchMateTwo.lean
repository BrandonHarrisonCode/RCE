import RCE.Proofs.SearchMateOne
/-! # "Once a 3-ply iteration has completed, the chosen move keeps a forced mate if a mate in two exists"

Second clause of the mate-finding property (the first, "a mate in one is played", is `SearchMateOne.lean`).  Soundness is
`SearchMate.mate_score_sound_partial`: a final score `≥ MAXS − 255` means the chosen move keeps a forced mate.  What is
proved here is COMPLETENESS: the mate score is reached.

## The statement as specified is FALSE

`Counter.mate_in_two_first_search_refuted`, `Counter.mate_in_two_kept_refuted`: already for the first search of a
position (empty cache, cache on, no limits), with an injective key and a game without draws, a completed 3-ply
iteration can end with a non-mate score and a move that does not keep any forced mate although a mate in two exists.
The game and the run are described at `namespace Counter`.  The cause is the depth accounting of the cache around the
check extension (entries are stored with the extended depth and compared with the asked depth) together with lower
bounds read from the cache; it needs a key move that gives check and a transposition into the position after it.

## What is true

For every game, root, depth limit, environment (any limits, stop point, monotone clock; cache on or off) and initial
cache satisfying `MateTwoInv` (the empty cache does; every search re-establishes it, completed or not, so the result
extends to any number of successive searches of the position):

* if the key move of a mate in two is QUIET, then once a 3-ply iteration has completed the reported score is a mate
  score and the chosen move keeps a forced mate;
* for ANY key move the same holds once a 4-ply iteration has completed.  (`Counter.mate_in_two_checking_key_refuted`:
  3 plies are not enough for a checking key move.)

`mate_in_two_found` is the theorem the others rest on: some root move leads to an `L2` node, and an iteration of depth
`thr kb + 1` has completed (`kb`: the key move gives check).  `mate_in_two_kept'` is its quiet-key, 3-ply form in terms
of the game's rules (`MateInTwoBy`, `NoDrawBelow3`), `mate_in_two_kept_four` the 4-ply form; `mate_in_two_kept` states
`mate_in_two_kept'` once more in the shape of the property, with the hypothesis "cache on", which is not needed;
`mate_in_two_kept_first` / `_again` are the first search and any later one.

Depth budget: the root asks the key move's child `c` for depth `D − 1`, `c` asks each reply's child `g`
for `D − 2 (+1 if c is in check)`, `g` asks the mated `h` for one less, and `h`, being in check, is extended to
depth ≥ 1 and returns `MINS + ply` from the empty move loop whatever was asked: `D = 3` suffices.

Bounds: no exact values are needed.  The returned value is specified as a `Bnd` contract (`LowOK`,
`HighOK`): a mated node returns `MINS + ply`; a node that mates at once (`W1`) returns `≥ β` or a score in the win band
`≥ 32512`; a node that is mated in two (`L2`), asked deep enough, returns `≤ α` or a score in the loss band `≤ −32512`.
The PVS null windows preserve this (`SearchRules.pvsChild_neg`), fail-hard returns are covered by the `≥ β` / `≤ α`
alternatives, and at the root `β = MAXS` is never reached by a sound score (`SearchRules.Rng`, where `NoMateInOne`
enters), so the key move lifts the root's α into the win band.  The loops are those of `SearchRules` (`abKids_bnd`,
`abStart_bnd`): `ab_C` says at each exit of a node what the bounds of its children mean for it.

The cache: `CInv`, a completeness invariant for the entries under the keys of the three kinds of nodes:
nothing is stored for a mated node; a `W1` node has no upper-bound or exact entry below the win band; an `L2` node has
no lower-bound entry of depth ≥ 2 and no exact entry of depth ≥ `thr` (2, or 3 if it is in check) above the loss band.
Every write of `ab` keeps it (`ab_C`); an entry that is read is a claim about the node (`cinv_entry`).

Mate distances: a transposed entry misstates the distance by the ply difference; only the bands are
used, and the conclusion is `Lost` (a forced mate of any length) plus "the score is in the win band".

The hypotheses beyond those of the other search theorems (`NoMateInOne`, the draw tests, `LineKeys`, a quiet key move or
one more ply), why each is needed, and what is not done: header of `Props/C12.lean`.

The file begins with the two declarations it shares with `SearchMateAvoid.lean`, which imports it: the form of the
specification of the searches below the root (`SearchRules.RecBnd`) and the rule for the iterations of one search
(`SearchMate.search_rule`). -/
namespace RCE.Proofs.SearchRules
open RCE.Search RCE.Proofs.SearchAbort

variable {P M : Type} [DecidableEq M]

/-- The specification of the searches below the root, `F` plies of fuel left, in the form the rules for a move and for
    the loops take it (this clause and the third, `SearchMateAvoid.lean`).  `Node n c`: the position `c` can be visited at
    ply `n`.  The cache invariant `I` is kept, the value is strictly inside `i16`, and unless the search was interrupted
    it satisfies the contract `A c n d`, `B c n d` of the node `c` at ply `n` asked for depth `d`. -/
def RecBnd (env : Env) (Node : Nat → P → Prop) (I : Table M → Prop) (A B : P → Nat → Nat → Int → Prop) (F : Nat)
    (rec : P → Int → Int → Nat → St M → Int × St M) : Prop :=
  ∀ n c, Node n c → n + F = 256 → ∀ d x y st, -32767 ≤ x → x < y → y ≤ 32767 → st.ply = n → I st.tt →
    (rec c x y d st).2.ply = n ∧ I (rec c x y d st).2.tt ∧ Rng (rec c x y d st).1 ∧
    (Interrupted env (rec c x y d st).2 ∨ Bnd (A c n d) (B c n d) x y (rec c x y d st).1)

end RCE.Proofs.SearchRules

namespace RCE.Proofs.SearchMate
open RCE.Search RCE.Proofs.SearchDefs RCE.Proofs.SearchUnfold RCE.Proofs.SearchBest RCE.Proofs.SearchAbort
open RCE.Proofs.SearchRules

variable {P M : Type} [DecidableEq M]

/-- The iterations of one search, for a cache invariant `Inv` beside `TInv` and a property `Good` of what the root
    reports (this clause and the third, `SearchMateAvoid.lean`): if every iteration keeps `Inv`, and from depth `T` on
    keeps `Good` and establishes it unless it is interrupted, then the search keeps `Inv`, and reports `Good` once an
    iteration of depth `≥ T` has been reported. -/
theorem search_rule {env : Env} (hc : MonoClock env) {G : Game P M} {p : P} (hk : KeyMate G) (he : EvalBoundedFrom G p)
    (hno : NoMateInOne G p) {Inv : Table M → Prop} {Good : St M → Prop} {T : Nat} (hT : 1 ≤ T)
    (hkeep : ∀ st st', Good st → Keep st st' → Good st')
    (hstep : ∀ d st, RootSt G p st → Inv st.tt → Inv (abStart env G p d st).tt ∧
      (T ≤ d → (Good st → Good (abStart env G p d st)) ∧
        (Interrupted env (abStart env G p d st) ∨ Good (abStart env G p d st))))
    (maxDepth : Option Nat) {tt0 : Table M} (hT0 : TInv G tt0) (hI0 : Inv tt0) :
    RootSt G p (search env G p maxDepth tt0).st ∧ Inv (search env G p maxDepth tt0).st.tt ∧
    ((∃ i ∈ (search env G p maxDepth tt0).infos, T ≤ i.depth) → Good (search env G p maxDepth tt0).st) := by
  obtain ⟨d', _, ⟨h1, h2, h3⟩, h4⟩ := iterate_rule hc (G := G) (p := p) (md := maxDepth.getD 255)
    (Pre := fun d st => RootSt G p st ∧ Inv st.tt ∧ (T < d → Good st))
    (Fin := fun d st => RootSt G p st ∧ Inv st.tt ∧ (T < d → Good st))
    (fun _ _ h => h)
    (fun d st st' hf =>
      have : RootSt G p st ∧ Inv st.tt ∧ (T < d → Good st) → RootSt G p st' ∧ Inv st'.tt ∧ (T < d → Good st') :=
        fun ⟨g1, g2, g3⟩ => ⟨g1.frame hf, hf.tt ▸ g2, fun h => hkeep _ _ (g3 h) (keep_of_frame hf)⟩
      ⟨this, this⟩)
    (fun d st ⟨hR, hI, hG⟩ => by
      have hA := hstep d st hR hI
      have hR1 := abStart_spec hk p he hno env d st hR
      by_cases hD : T ≤ d
      · rcases (hA.2 hD).2 with hint | hg
        · exact .inl ⟨hint, hR1, hA.1, fun h => (hA.2 hD).1 (hG h)⟩
        · exact .inr ⟨hR1, hA.1, fun _ => hg⟩
      · exact .inr ⟨hR1, hA.1, fun h => absurd h (by omega)⟩)
    (maxDepth.getD 255) 1 ({ tt := tt0 } : St M) [] ⟨⟨hT0, rfl, fun s m h => by simp at h⟩, hI0, fun h => by omega⟩
  -- the state returned is the last iteration's but for the running flag
  refine ⟨h1, h2, fun ⟨i, hi, hid⟩ => hkeep _ _ (h3 ?_) ⟨rfl, rfl, rfl⟩⟩
  rcases h4 i hi with h | h
  · exact absurd h List.not_mem_nil
  · omega

end RCE.Proofs.SearchMate

namespace RCE.Proofs.SearchMateTwo
open RCE.Search RCE.Proofs.SearchDefs RCE.Proofs.SearchUnfold RCE.Proofs.SearchBest RCE.Proofs.SearchAbort
open RCE.Proofs.SearchMate (Mated TInv NoMateInOne)
open RCE.Proofs.SearchRules
open RCE.Proofs.SearchMateCommon (not_won_of_lost keyMate_of_inj keyMate_of_solver evalBounded_of_forall not_lost refute_best
  monoClock_default)
open RCE.Proofs.SearchMateOne (Mates Silent)

variable {P M : Type} [DecidableEq M]
set_option linter.unusedSectionVars false

/-- `m` is the key move of a mate in two: it is legal, the opponent has a reply, and after every legal reply the
    mover mates in one -/
def MateInTwoBy (G : Game P M) (p : P) (m : M) : Prop :=
  m ∈ legalMovesOf G p ∧ legalMovesOf G (G.play p m) ≠ [] ∧
  ∀ r ∈ legalMovesOf G (G.play p m), ∃ x, Mates G (G.play (G.play p m) r) x

/-- mated in 0: a mated position that the engine sees as such, not declared a draw before the mate test -/
def M0 (G : Game P M) (h : P) : Prop := G.fifty h = false ∧ G.repeated h = false ∧ Mated G h

/-- wins in 1: the side to move mates at once (and the engine sees it) -/
def W1 (G : Game P M) (g : P) : Prop :=
  G.fifty g = false ∧ G.repeated g = false ∧ ∃ x ∈ legalMovesOf G g, M0 G (G.play g x)

/-- lost in 2: the side to move is mated in two whatever it plays (and the engine sees it); `b` = "is in check" -/
def L2 (G : Game P M) (b : Bool) (c : P) : Prop :=
  G.fifty c = false ∧ G.repeated c = false ∧ G.inCheck c = b ∧ legalMovesOf G c ≠ [] ∧
  ∀ r ∈ legalMovesOf G c, W1 G (G.play c r)

/-- the threshold: the depth that must be requested of an `L2` node for the result to be trusted, one more if it is in
    check (finding D11: entries carry the depth after the check extension and are compared with the depth asked) -/
def thr (b : Bool) : Nat := if b then 3 else 2

theorem thr_ge (b : Bool) : 2 ≤ thr b := by unfold thr; split <;> omega

/-- the positions the search can visit at ply `n ≥ 1` (children are entered by legal moves only) -/
inductive TreeAt (G : Game P M) (p : P) : Nat → P → Prop
  | child {m : M} : m ∈ legalMovesOf G p → TreeAt G p 1 (G.play p m)
  | step {n : Nat} {q : P} {m : M} : TreeAt G p n q → m ∈ legalMovesOf G q → TreeAt G p (n + 1) (G.play q m)

theorem TreeAt.reach {G : Game P M} {p : P} {n : Nat} {q : P} (h : TreeAt G p n q) : Reach G p q := by
  induction h with
  | child hm => exact Reach.step Reach.refl (List.mem_filter.1 hm).1
  | step _ hm ih => exact Reach.step ih (List.mem_filter.1 hm).1

theorem TreeAt.pos {G : Game P M} {p : P} {n : Nat} {q : P} (h : TreeAt G p n q) : 1 ≤ n := by
  cases h with
  | child _ => exact Nat.le_refl _
  | step _ _ => omega

theorem TreeAt.not_mated_one {G : Game P M} {p : P} (hno : NoMateInOne G p) {q : P} (h : TreeAt G p 1 q) : ¬ Mated G q := by
  cases h with
  | child hm => exact hno _ hm
  | step h _ => exact absurd h.pos (by omega)

theorem TreeAt.le_rank {G : Game P M} {p : P} (rk : P → Nat)
    (hstep : ∀ q m, m ∈ legalMovesOf G q → rk q + 1 ≤ rk (G.play q m)) {n : Nat} {q : P} (h : TreeAt G p n q) :
    n + rk p ≤ rk q := by
  induction h with
  | child hm => have := hstep _ _ hm; omega
  | step _ hm ih => have := hstep _ _ hm; omega

/-- The key hypothesis.  Among the positions of the tree below the root, a node `q` that shares its key with a node
    `q'` of one of the three kinds of the mating lines either never writes to the cache (`Silent`) or is of the same
    kind, and then not deeper than ply 250 (at ply 255 every node returns 0, so a `W1` node at ply 254 would store a
    wrong score); and the root's key is not that of a `W1` node of the tree (the root's entry of an early iteration
    carries no mate score).  All of it holds for a key that is injective on the tree and the root, if the tree has no
    such node below ply 250. -/
structure LineKeys (G : Game P M) (p : P) : Prop where
  mated : ∀ {n q n' q'}, TreeAt G p n q → TreeAt G p n' q' → G.key q = G.key q' → M0 G q' → Silent G q
  won : ∀ {n q n' q'}, TreeAt G p n q → TreeAt G p n' q' → G.key q = G.key q' → W1 G q' → Silent G q ∨ (W1 G q ∧ n ≤ 250)
  lost : ∀ {n q n' q'} (b : Bool), TreeAt G p n q → TreeAt G p n' q' → G.key q = G.key q' → L2 G b q' →
    Silent G q ∨ (L2 G b q ∧ n ≤ 250)
  root : ∀ {n' q'}, TreeAt G p n' q' → W1 G q' → G.key q' ≠ G.key p

/-- what the cache may hold for a node of the tree: nothing for a mated node; for a `W1` node no upper bound or exact
    score below the mate band; for an `L2` node no lower bound of depth ≥ 2 and no exact score of depth ≥ `thr`
    above the mated band -/
def EntryOK (G : Game P M) (q : P) (e : Entry M) : Prop :=
  ¬ M0 G q ∧ (W1 G q → e.bound ≠ .lower → 32512 ≤ e.score) ∧
  ∀ b, L2 G b q → (e.bound = .lower → 2 ≤ e.depth → e.score ≤ -32512) ∧
                   (e.bound = .exact → thr b ≤ e.depth → e.score ≤ -32512)

/-- the completeness invariant of the cache -/
def CInv (G : Game P M) (p : P) (tt : Table M) : Prop :=
  ∀ n q, TreeAt G p n q → ∀ e, tt[G.key q]? = some e → EntryOK G q e

theorem cinv_empty (G : Game P M) (p : P) : CInv G p ({} : Table M) := by
  intro n q _ e h
  rw [Std.HashMap.getElem?_empty] at h; cases h

theorem not_draw {G : Game P M} {q : P} (hf : G.fifty q = false) (hr : G.repeated q = false) :
    ¬ (G.fifty q = true ∨ G.repeated q = true) :=
  fun h => h.elim (by rw [hf]; exact Bool.false_ne_true) (by rw [hr]; exact Bool.false_ne_true)

theorem not_silent {G : Game P M} {q : P} (hf : G.fifty q = false) (hr : G.repeated q = false) {m : M}
    (hm : m ∈ legalMovesOf G q) : ¬ Silent G q := by
  rintro (h | h | h)
  · exact not_draw hf hr (.inl h)
  · exact not_draw hf hr (.inr h)
  · exact List.ne_nil_of_mem hm h

theorem cinv_insert {G : Game P M} {p : P} (hL : LineKeys G p) {tt : Table M} (hC : CInv G p tt) {n0 : Nat} {q0 : P}
    (hq0 : TreeAt G p n0 q0) (hns : ¬ Silent G q0) (e : Entry M)
    (hw : W1 G q0 → n0 ≤ 250 → e.bound ≠ .lower → 32512 ≤ e.score)
    (hl : ∀ b, L2 G b q0 → n0 ≤ 250 → (e.bound = .lower → 2 ≤ e.depth → e.score ≤ -32512) ∧
      (e.bound = .exact → thr b ≤ e.depth → e.score ≤ -32512)) :
    CInv G p (tt.insert (G.key q0) e) := by
  intro n q hq e' he'
  rcases getElem?_insert_elim he' with ⟨heq', rfl⟩ | he'
  · -- the entry is read for `q`, which has the key of `q0`; `q0` writes, so it is of the kind of `q` (`LineKeys`)
    exact ⟨fun hm => hns (hL.mated hq0 hq heq' hm),
      fun hw' => have h := (hL.won hq0 hq heq' hw').resolve_left hns; hw h.1 h.2,
      fun b hl' => have h := (hL.lost b hq0 hq heq' hl').resolve_left hns; hl b h.1 h.2⟩
  · exact hC n q hq e' he'

theorem m0_lost {G : Game P M} {h : P} (hm : M0 G h) : Lost G h := Lost.mate hm.2.2.1 hm.2.2.2

theorem w1_won {G : Game P M} {g : P} (h : W1 G g) : Won G g := by
  obtain ⟨_, _, x, hx, hm⟩ := h
  exact Won.some x hx (m0_lost hm)

theorem l2_lost {G : Game P M} {b : Bool} {c : P} (h : L2 G b c) : Lost G c :=
  Lost.all h.2.2.2.1 fun r hr => w1_won (h.2.2.2.2 r hr)

theorem cinv_insert_root {G : Game P M} {p : P} (hk : KeyMate G) (hL : LineKeys G p) (hw : Won G p) {tt : Table M}
    (hC : CInv G p tt) (e : Entry M) : CInv G p (tt.insert (G.key p) e) := by
  intro n q hq e' he'
  rcases getElem?_insert_elim he' with ⟨heq', rfl⟩ | he'
  · have hnl : ¬ Lost G q := fun hl => not_won_of_lost hl ((hk p q heq').1 hw)
    refine ⟨fun hm => hnl (m0_lost hm), fun hw' => absurd heq'.symm (hL.root hq hw'), fun b hl => absurd (l2_lost hl) hnl⟩
  · exact hC n q hq e' he'

theorem cinv_none_of_m0 {G : Game P M} {p : P} {tt : Table M} (hC : CInv G p tt) {n : Nat} {q : P} (hq : TreeAt G p n q)
    (hm : M0 G q) : tt[G.key q]? = none :=
  Option.eq_none_iff_forall_ne_some.2 fun e he => (hC n q hq e he).1 hm

/-! ## what a returned value must satisfy

A value returned for the node `c` at ply `n`, asked for depth `d`, is specified as a `Bnd` contract.  As a lower bound
(`LowOK`) it is at most the mate score if `c` is mated, and in the loss band if `c` is mated in two and was asked deep
enough; as an upper bound (`HighOK`) it is in the win band if `c` mates at once.  The parent reads the mirror image.
The ply bounds: a mated node returns `MINS + ply` only below the ply cap (`n ≤ 254`: at ply 255 the abort check fires and
0 is returned); the `W1` / `L2` clauses stop at ply 250, the bound `LineKeys` gives, which leaves the mating line of an
`L2` node (three more plies) below the cap. -/

def LowOK (G : Game P M) (c : P) (n d : Nat) (r : Int) : Prop :=
  (M0 G c → n ≤ 254 → r ≤ MINS + (n : Int)) ∧ ∀ b, L2 G b c → n ≤ 250 → thr b ≤ d → r ≤ -32512

def HighOK (G : Game P M) (c : P) (n d : Nat) (r : Int) : Prop :=
  W1 G c → n ≤ 250 → (1 ≤ d ∨ G.inCheck c = true) → 32512 ≤ r

/-- above the ply cap, and of a node of none of the three kinds, nothing is claimed -/
theorem bnd_of_none {G : Game P M} {q : P} {n : Nat} (d : Nat) (x y r : Int)
    (h : 254 < n ∨ (¬ M0 G q ∧ (∀ b, ¬ L2 G b q) ∧ ¬ W1 G q)) : Bnd (LowOK G q n d) (HighOK G q n d) x y r :=
  .of_both
    ⟨fun hm hn => h.elim (fun h => by omega) (fun h => absurd hm h.1),
     fun b hl hn _ => h.elim (fun h => by omega) (fun h => absurd hl (h.2.1 b))⟩
    fun hw hn _ => h.elim (fun h => by omega) (fun h => absurd hw h.2.2)

theorem not_kinds_of_draw {G : Game P M} {q : P} (h : G.fifty q = true ∨ G.repeated q = true) :
    ¬ M0 G q ∧ (∀ b, ¬ L2 G b q) ∧ ¬ W1 G q :=
  ⟨fun hm => not_draw hm.1 hm.2.1 h, fun _ hl => not_draw hl.1 hl.2.1 h, fun hw => not_draw hw.1 hw.2.1 h⟩

theorem not_kinds_of_nil {G : Game P M} {q : P} (h : legalMovesOf G q = []) : (∀ b, ¬ L2 G b q) ∧ ¬ W1 G q :=
  ⟨fun _ hl => hl.2.2.2.1 h, fun ⟨_, _, _, hx, _⟩ => List.ne_nil_of_mem hx h⟩

theorem cinv_entry {G : Game P M} {p : P} {tt : Table M} (hC : CInv G p tt) {n : Nat} {q : P} (hq : TreeAt G p n q)
    {e : Entry M} (he : tt[G.key q]? = some e) {d : Nat} (hd : d ≤ e.depth) :
    EntryBnd (LowOK G q n d) (HighOK G q n d) e := by
  obtain ⟨hM, hW, hLl⟩ := hC n q hq e he
  refine ⟨fun hb => ⟨fun hm => absurd hm hM, fun b hl _ ht => ?_⟩, fun hb hw _ _ => hW hw hb⟩
  have := thr_ge b
  cases hbd : e.bound with
  | upper => exact absurd hbd hb
  | lower => exact (hLl b hl).1 hbd (by omega)
  | exact => exact (hLl b hl).2 hbd (by omega)

theorem lowOK_anti {G : Game P M} {c : P} {n d : Nat} (v w : Int) (h : LowOK G c n d w) (hvw : v ≤ w) : LowOK G c n d v :=
  ⟨fun h1 h2 => by have := h.1 h1 h2; omega, fun b h1 h2 h3 => by have := h.2 b h1 h2 h3; omega⟩

theorem w1_child_ply {G : Game P M} {p : P} (hL : LineKeys G p) {n : Nat} {c : P} (hc : TreeAt G p n c) (hw : W1 G c) :
    n ≤ 250 :=
  have ⟨hf, hr, _, hx, _⟩ := hw
  ((hL.won hc hc rfl hw).resolve_left (not_silent hf hr hx)).2

/-- the depth after the check extension passes the threshold of an `L2` node exactly if depth 2 was asked: `thr` is one
    more for a node in check (entries are compared with the depth asked: D11) -/
theorem thr_le_ext (b : Bool) (d : Nat) : thr b ≤ (if b = true then d + 1 else d) ↔ 2 ≤ d := by
  cases b <;> simp [thr]

/-- A `W1` node all of whose children are bounded below by `−alpha`: the child of the mating move returns the mate score
    of its ply, so alpha is in the win band. -/
theorem w1_alpha {G : Game P M} {q : P} {n dd : Nat} {alpha : Int} (hw : W1 G q) (hn : n ≤ 250)
    (h : ∀ m ∈ legalMovesOf G q, LowOK G (G.play q m) (n + 1) dd (-alpha)) : 32512 ≤ alpha := by
  obtain ⟨_, _, x, hx, hm⟩ := hw
  have := (h x hx).1 hm (by omega)
  simp only [MINS] at this
  omega

/-- A reply of an `L2` node is answered by a mate: the child is `W1`, so if, searched one ply deep at least, it is
    bounded above by `−r`, then `r` is in the loss band. -/
theorem l2_reply {G : Game P M} {p : P} (hL : LineKeys G p) {n : Nat} {q : P} (hq : TreeAt G p n q) {b : Bool}
    (hl : L2 G b q) {m : M} (hm : m ∈ legalMovesOf G q) {d' : Nat} (hd : 2 ≤ d') {r : Int}
    (h : HighOK G (G.play q m) (n + 1) (d' - 1) (-r)) : r ≤ -32512 := by
  have hw1 := hl.2.2.2.2 m hm
  have := h hw1 (w1_child_ply hL (TreeAt.step hq hm) hw1) (.inl (by omega))
  omega

/-- Every search below the root keeps the cache clean (`TInv`, by the soundness development) and complete (`CInv`) and
    returns a value that satisfies the contract, unless it was interrupted. -/
theorem ab_C (env : Env) (hc : MonoClock env) {G : Game P M} {p : P} (hk : KeyMate G) (he : EvalBoundedFrom G p)
    (hL : LineKeys G p) (hno : NoMateInOne G p) :
    ∀ fuel, RecBnd env (TreeAt G p) (fun tt => TInv G tt ∧ CInv G p tt) (LowOK G) (HighOK G) fuel (ab env G fuel) := by
  intro fuel
  induction fuel with
  | zero =>
    intro n q hq hF d x y st _ _ _ hply hI
    exact ⟨hply, hI, rng_zero, .inr (bnd_of_none d x y 0 (.inl (by omega)))⟩
  | succ fuel ih =>
    intro n q hq hF d x y st hx hxy hy hply ⟨hT, hC⟩
    subst hply
    -- the ply, the clean cache and the range of the value: the soundness development, applied to this very call
    suffices h : CInv G p (ab env G (fuel + 1) q x y d st).2.tt ∧ (Interrupted env (ab env G (fuel + 1) q x y d st).2 ∨
        Bnd (LowOK G q st.ply d) (HighOK G q st.ply d) x y (ab env G (fuel + 1) q x y d st).1) by
      obtain ⟨_, hrng, hTf, hkf⟩ := SearchMate.ab_spec hk p he env (fuel + 1) q x y d st hq.reach hx hxy hy hq.pos
        (Nat.le_of_eq hF) (fun h => (h ▸ hq).not_mated_one hno) hT
      exact ⟨hkf.ply, ⟨hTf, h.1⟩, hrng, h.2⟩
    have hf := abortCheck_frame env st
    have hT1 : TInv G (abortCheck env st).2.tt := hf.tt ▸ hT
    have hC1 : CInv G p (abortCheck env st).2.tt := hf.tt ▸ hC
    have hI2 : TInv G (probeSt env (abortCheck env st).2).tt ∧ CInv G p (probeSt env (abortCheck env st).2).tt := by
      rw [probeSt_eq]; dsimp only; split
      · exact ⟨SearchMate.tinv_empty G, cinv_empty G p⟩
      · exact ⟨hT1, hC1⟩
    have hply2 : (probeSt env (abortCheck env st).2).ply = st.ply := ((keep_across env G).probe _).ply.trans hf.ply
    -- an abort check that fires below the ply cap is an interruption; at the cap nothing is claimed
    have habort : (abortCheck env st).1 = true → Interrupted env (abortCheck env st).2 ∨
        Bnd (LowOK G q st.ply d) (HighOK G q st.ply d) x y 0 := fun hab => by
      by_cases h255 : st.ply < 255
      · exact .inl (abortCheck_interrupts' env st h255 hab)
      · exact .inr (bnd_of_none d x y 0 (.inl (Nat.not_lt.1 h255)))
    by_cases hM0 : M0 G q
    · -- a mated node: `CInv` keeps its key free of entries, so it reaches its empty loop and returns the mate score of its ply
      rw [SearchMateCommon.ab_mated env G q hM0.2.2.1 hM0.2.2.2 hM0.1 hM0.2.1 fuel x y d st (cinv_none_of_m0 hI2.2 hq hM0)]
      have hnk := not_kinds_of_nil hM0.2.2.1
      split
      · exact ⟨hC1, habort ‹_›⟩
      · exact ⟨hI2.2, .inr (.of_both ⟨fun _ _ => by rw [hply2]; exact Int.le_refl _, fun b hl => absurd hl (hnk.1 b)⟩
          fun hw => absurd hw hnk.2)⟩
    refine ab_cases (Q := fun r => CInv G p r.2.tt ∧
        (Interrupted env r.2 ∨ Bnd (LowOK G q st.ply d) (HighOK G q st.ply d) x y r.1))
      (fun c hcc h => ?_) (fun c st2 hcc hab hfif hrep hst2 => ?_)
    · -- the value 0, nothing written; a node declared a draw is of none of the three kinds
      subst hcc
      exact ⟨hC1, h.elim habort fun hdr => .inr (bnd_of_none d x y 0 (.inr (not_kinds_of_draw hdr)))⟩
    subst hcc
    have hn : st.ply ≤ 254 := by have := abortCheck_false_ply hab; omega
    rw [← hst2] at hI2 hply2
    -- an answer of the cache: `CInv` says of an entry that is deep enough what the contract says of a value
    refine ⟨fun s heq => ⟨hI2.2, .inr (probe_inl_bnd hxy (fun e he hd => cinv_entry hI2.2 hq he hd) heq)⟩,
      fun a b d' heq hd' => ?_⟩
    -- the window after the probe: a raised lower end is in the loss band for an `L2` node asked for depth ≥ 2, a
    -- lowered upper end is in the win band for a `W1` node
    obtain ⟨haa, hbb, hab', hLa, hWb⟩ := probe_inr_bnd
      (A := fun r => ∀ bb, L2 G bb q → 2 ≤ d → r ≤ -32512) (B := fun r => W1 G q → 32512 ≤ r) hxy
      (fun e he hd => ⟨fun hb bb hl h2 => ((hI2.2 _ q hq e he).2.2 bb hl).1 hb (Nat.le_trans h2 hd),
        fun hb hw => (hI2.2 _ q hq e he).2.1 hw (by rw [hb]; simp)⟩) heq
    have hdd : d ≤ d' := by rw [hd']; split <;> simp
    -- quiescence: only for a node that is not in check and was asked for depth 0, of which nothing is claimed
    refine ⟨fun hd0 => ⟨by rw [quiesce_tt]; exact hI2.2,
      .inr ⟨fun _ => ⟨fun h => absurd h hM0, fun bb _ _ h => ?_⟩, fun _ _ _ h => ?_⟩⟩, fun hd0 out hout => ?_⟩
    · have := thr_ge bb
      omega
    · rcases h with h | h
      · omega
      · rw [hd', if_pos h] at hd0; cases hd0
    -- the loop: what it leaves is said in terms of the children's contracts
    have hkids : KidsBnd env G q d' st.ply (fun tt => TInv G tt ∧ CInv G p tt)
        (fun m => LowOK G (G.play q m) (st.ply + 1) (d' - 1)) (fun m => HighOK G (G.play q m) (st.ply + 1) (d' - 1)) a b 0 out := by
      rw [hout]
      exact abKids_bnd (SearchMateCommon.interrupted_stop hc) (fun m => lowOK_anti)
        (fun m hm => ih (st.ply + 1) (G.play q m) (TreeAt.step hq hm) (by omega) (d' - 1))
        _ a b _ false 0 _ (fun m hm => orderMoves_mem.1 hm) (fun m hm => orderMoves_mem.2 (mem_legalMovesOf.1 hm).1)
        (Int.le_trans hx haa) hab' (Int.le_trans hbb hy) hply2 hI2
    cases out with
    | abort st' =>
      -- below the ply cap a check that fires is an interruption
      obtain ⟨_, hI, s, hs, hfire, rfl⟩ := hkids
      exact ⟨hI.2, .inl (abortCheck_interrupts' env s (hs ▸ Nat.lt_succ_of_le hn) hfire)⟩
    | cut st' =>
      -- a cut: the child of the move is bounded above by `−r`; for an `L2` node `r`, and `β ≤ r` with it, is therefore in
      -- the loss band (`l2_reply`): that is what `CInv` asks of the lower bound stored, and the contract of `β`; a `W1`
      -- node only makes a claim when the probe has lowered `β`, and then the entry's
      obtain ⟨m, r, c, hm, hbr, _, hB, _, hI, rfl⟩ := hkids
      refine ⟨?_, .inr ⟨fun _ => ⟨fun h => absurd h hM0, fun bb hl _ ht => ?_⟩, fun g hw _ _ => hWb g hw⟩⟩
      · rw [storeKillers_tt]
        exact cinv_insert hL hI.2 hq (not_silent hfif hrep hm) _ (fun _ _ h => absurd rfl h) fun bb hl _ =>
          ⟨fun _ hd => l2_reply hL hq hl hm hd hB, fun h => by cases h⟩
      · exact Int.le_trans hbr (l2_reply hL hq hl hm (Nat.le_trans (thr_ge bb) (Nat.le_trans ht hdd)) hB)
    | done alpha best cnt st' =>
      obtain ⟨hcnt, _, hI, g1, g2, _, g4, g5⟩ := hkids
      refine ⟨fun hn0 => ?_, fun hn0 => ?_⟩
      · -- no legal move, and not `M0`: of none of the three kinds, whichever value is returned
        split <;> exact ⟨hI.2, .inr (bnd_of_none d x y _ (.inr ⟨hM0, not_kinds_of_nil (hcnt.1 hn0)⟩))⟩
      · obtain ⟨m0, hm0⟩ := List.exists_mem_of_ne_nil _ fun h => hn0 (hcnt.2 h)
        -- the final alpha of an `L2` node whose depth after the check extension passes the threshold, so that depth `≥ 2`
        -- was asked: the score of the best reply, which is answered by a mate; or the lower end the probe has raised, by a
        -- lower bound of depth `≥ 2`, which `CInv` keeps in the loss band; or not above the lower end given
        have hLfin : ∀ bb, L2 G bb q → thr bb ≤ d' → alpha ≤ x ∨ alpha ≤ -32512 := by
          intro bb hl ht
          have h2 : 2 ≤ d := (thr_le_ext bb d).1 (by rw [← hl.2.2.1, ← hd']; exact hl.2.2.1 ▸ ht)
          by_cases g : a < alpha
          · exact .inr (l2_reply hL hq hl (g4 g).1 (Nat.le_trans h2 hdd) (g4 g).2)
          · by_cases g' : x < a
            · exact .inr (Int.le_trans (Int.not_lt.1 g) (hLa g' bb hl h2))
            · exact .inl (Int.le_trans (Int.not_lt.1 g) (Int.not_lt.1 g'))
        refine ⟨?_, .inr ⟨fun g => ⟨fun h => absurd h hM0, fun bb hl _ ht => ?_⟩, fun _ hw hn' _ => w1_alpha hw hn' g5⟩⟩
        · -- the entry stored: an upper bound, or exact when alpha is above the lower end given
          show CInv G p (st'.tt.insert (G.key q) _)
          refine cinv_insert hL hI.2 hq (not_silent hfif hrep hm0) _ (fun hw hn' _ => w1_alpha hw hn' g5) fun bb hl _ => ?_
          refine ⟨fun h => ?_, fun h ht => (hLfin bb hl ht).resolve_left fun hle => ?_⟩
          · dsimp only at h; split at h <;> cases h
          · dsimp only at h; rw [if_pos hle] at h; cases h
        · exact (hLfin bb hl (Nat.le_trans ht hdd)).resolve_left (Int.not_le.2 g)

/-- the root reports a win: a best score in the band of mate scores, and a best move -/
def HW (st : St M) : Prop := ∃ s m, st.bestScore = some s ∧ 32512 ≤ s ∧ st.bestMove = some m

theorem HW.of_keep {st st' : St M} (h : HW st) (hk : Keep st st') : HW st' := by
  obtain ⟨s, m, h1, h2, h3⟩ := h
  exact ⟨s, m, hk.bestScore.trans h1, h2, hk.bestMove.trans h3⟩

/-- one iteration: the completeness invariant is kept; from depth `thr kb + 1` on a mate score stays reported, and
    is reported unless the iteration was interrupted.  In the root loop alpha is in the win band once the key move
    has been searched (`kb` = "the key move gives check"). -/
theorem abStart_C (env : Env) (hc : MonoClock env) {G : Game P M} {p : P} (hk : KeyMate G) (he : EvalBoundedFrom G p)
    (hL : LineKeys G p) (hno : NoMateInOne G p) (kb : Bool) (hex : ∃ m ∈ legalMovesOf G p, L2 G kb (G.play p m))
    (D : Nat) {st : St M} (hply : st.ply = 0) (hT : TInv G st.tt) (hC : CInv G p st.tt) :
    CInv G p (abStart env G p D st).tt ∧
    (thr kb + 1 ≤ D → (HW st → HW (abStart env G p D st)) ∧
      (Interrupted env (abStart env G p D st) ∨ HW (abStart env G p D st))) := by
  obtain ⟨mm, hmm, hl2⟩ := hex
  rcases abStart_bnd (depth := D) (I := fun tt => TInv G tt ∧ CInv G p tt)
      (A := fun m => LowOK G (G.play p m) 1 (D - 1)) (B := fun m => HighOK G (G.play p m) 1 (D - 1))
      (List.ne_nil_of_mem hmm) (SearchMateCommon.interrupted_stop hc) (fun m => lowOK_anti)
      (fun m hm => ab_C env hc hk he hL hno 255 1 (G.play p m) (TreeAt.child hm) rfl (D - 1)) hply ⟨hT, hC⟩
    with ⟨al, best, s, hs, hIs, hks, hfire, _, h⟩ | ⟨al, best, c, _, hIc, _, _, _, _, hA, h⟩
  · -- cut short: the cache is as the searches left it, a reported mate score is only replaced by a larger one
    have hf := abortCheck_frame env s
    have hint := abortCheck_interrupts' env s (by rw [hs]; decide) hfire
    have hkeep := hks.trans (keep_of_frame hf)
    rcases h with h | ⟨s0, h1, h2, h⟩ <;> rw [h]
    · exact ⟨hf.tt ▸ hIs.2, fun _ => ⟨fun hw => hw.of_keep hkeep, .inl hint⟩⟩
    · refine ⟨hf.tt ▸ hIs.2, fun _ => ⟨fun hw => ?_, .inl hint⟩⟩
      obtain ⟨s1, _, g1, g2, _⟩ := hw.of_keep hkeep
      rw [g1] at h1; cases h1
      exact ⟨al, best, rfl, Int.le_of_lt (Int.lt_of_le_of_lt g2 h2), rfl⟩
  · -- completed: the key move's child, an `L2` node asked for depth `D − 1 ≥ thr kb`, is bounded below by `−alpha`, which
    -- is therefore in the loss band
    rw [h]
    refine ⟨cinv_insert_root hk hL (Won.some mm hmm (l2_lost hl2)) hIc.2 _, fun hD => ?_⟩
    have hw : HW ({ c.insert (G.key p) ⟨al, D, .exact, best⟩ 1 with bestScore := some al, bestMove := some best } : St M) :=
      ⟨al, best, rfl, by have := (hA mm hmm).2 kb hl2 (by decide) (Nat.le_sub_one_of_lt hD); omega, rfl⟩
    exact ⟨fun _ => hw, .inr hw⟩

/-- the cache invariant: mate-sound with scores strictly inside `(−32767, 32767)` (the invariant of `SearchMate.lean`),
    and complete on the nodes of the mating lines (`CInv`) -/
def MateTwoInv (G : Game P M) (p : P) (tt : Table M) : Prop := TInv G tt ∧ CInv G p tt

theorem mateTwoInv_empty (G : Game P M) (p : P) : MateTwoInv G p ({} : Table M) :=
  ⟨SearchMate.tinv_empty G, cinv_empty G p⟩

/-- every search keeps the invariants, and once an iteration of depth `thr kb + 1` has been reported a mate score is
    reported -/
theorem search_C (env : Env) (G : Game P M) (p : P) (maxDepth : Option Nat) (tt0 : Table M)
    (hc : MonoClock env) (he : EvalBoundedFrom G p) (hk : KeyMate G) (hno : NoMateInOne G p) (hL : LineKeys G p)
    (kb : Bool) (hex : ∃ m ∈ legalMovesOf G p, L2 G kb (G.play p m)) (hinv : MateTwoInv G p tt0) :
    SearchMate.RootSt G p (search env G p maxDepth tt0).st ∧ CInv G p (search env G p maxDepth tt0).st.tt ∧
    ((∃ i ∈ (search env G p maxDepth tt0).infos, thr kb + 1 ≤ i.depth) → HW (search env G p maxDepth tt0).st) :=
  SearchMate.search_rule hc hk he hno (Nat.le_add_left 1 _) (fun _ _ h hkp => h.of_keep hkp)
    (fun d _ hR hC => abStart_C env hc hk he hL hno kb hex d hR.2.1 hR.1 hC) maxDepth hinv.1 hinv.2

/-- **The mate is found.**  If some legal root move leads to an `L2` node (the opponent is mated in two, on lines the
    engine sees), then once an iteration of depth `thr kb + 1` has completed — 3 plies if the key move is quiet, 4 if
    it gives check — the reported score is a mate score, the reported move keeps a forced mate, and the cache
    satisfies the invariant again.  Any limits, stop point and monotone clock; cache on or off. -/
theorem mate_in_two_found (env : Env) (G : Game P M) (p : P) (maxDepth : Option Nat) (tt0 : Table M)
    (hc : MonoClock env) (he : EvalBoundedFrom G p) (hk : KeyMate G) (hno : NoMateInOne G p) (hL : LineKeys G p)
    (kb : Bool) (hex : ∃ m ∈ legalMovesOf G p, L2 G kb (G.play p m)) (hinv : MateTwoInv G p tt0)
    (hdone : ∃ i ∈ (search env G p maxDepth tt0).infos, thr kb + 1 ≤ i.depth) :
    (∃ m s, (search env G p maxDepth tt0).st.bestMove = some m ∧ (search env G p maxDepth tt0).st.bestScore = some s ∧
      MAXS - 255 ≤ s ∧ Lost G (G.play p m)) ∧
    MateTwoInv G p (search env G p maxDepth tt0).st.tt := by
  obtain ⟨h1, h2, h3⟩ := search_C env G p maxDepth tt0 hc he hk hno hL kb hex hinv
  obtain ⟨s, m, hs, hge, hm⟩ := h3 hdone
  exact ⟨⟨m, s, hm, hs, by simp only [MAXS]; omega, h1.2.2 s m hs hm hge⟩, h1.1, h2⟩

/-- the invariant is re-established by every search, completed or not -/
theorem mateTwoInv_search (env : Env) (G : Game P M) (p : P) (maxDepth : Option Nat) (tt0 : Table M)
    (hc : MonoClock env) (he : EvalBoundedFrom G p) (hk : KeyMate G) (hno : NoMateInOne G p) (hL : LineKeys G p)
    (kb : Bool) (hex : ∃ m ∈ legalMovesOf G p, L2 G kb (G.play p m)) (hinv : MateTwoInv G p tt0) :
    MateTwoInv G p (search env G p maxDepth tt0).st.tt :=
  let h := search_C env G p maxDepth tt0 hc he hk hno hL kb hex hinv
  ⟨h.1.1, h.2.1⟩

/-- no position within three plies below the root is declared a draw (fifty-move rule, repetition): "the position is
    given without prior history and with a small half-move clock" -/
def NoDrawBelow3 (G : Game P M) (p : P) : Prop :=
  ∀ n q, TreeAt G p n q → n ≤ 3 → G.fifty q = false ∧ G.repeated q = false

theorem l2_of_mateInTwoBy {G : Game P M} {p : P} {m : M} (h : MateInTwoBy G p m) (hd : NoDrawBelow3 G p) :
    L2 G (G.inCheck (G.play p m)) (G.play p m) := by
  have hc : TreeAt G p 1 (G.play p m) := TreeAt.child h.1
  have hdc := hd 1 _ hc (by omega)
  refine ⟨hdc.1, hdc.2, rfl, h.2.1, ?_⟩
  intro r hr
  have hg : TreeAt G p 2 (G.play (G.play p m) r) := TreeAt.step hc hr
  have hdg := hd 2 _ hg (by omega)
  obtain ⟨x, hx, hM⟩ := h.2.2 r hr
  have hdh := hd 3 _ (TreeAt.step hg hx) (by omega)
  exact ⟨hdg.1, hdg.2, x, hx, hdh.1, hdh.2, hM⟩

/-- **Quiet key move: three plies** (cache on or off). -/
theorem mate_in_two_kept' (env : Env) (G : Game P M) (p : P) (maxDepth : Option Nat) (tt0 : Table M)
    (hc : MonoClock env) (he : EvalBoundedFrom G p) (hk : KeyMate G)
    (hno : NoMateInOne G p) (hL : LineKeys G p) (hd : NoDrawBelow3 G p)
    (hex : ∃ m, MateInTwoBy G p m ∧ G.inCheck (G.play p m) = false) (hinv : MateTwoInv G p tt0)
    (hdone : ∃ i ∈ (search env G p maxDepth tt0).infos, i.depth ≥ 3) :
    (∃ m, (search env G p maxDepth tt0).st.bestMove = some m ∧ Lost G (G.play p m)) ∧
    MateTwoInv G p (search env G p maxDepth tt0).st.tt := by
  obtain ⟨m, hm, hq⟩ := hex
  have hl2 := l2_of_mateInTwoBy hm hd
  rw [hq] at hl2
  obtain ⟨⟨b, s, h1, _, _, h4⟩, h5⟩ := mate_in_two_found env G p maxDepth tt0 hc he hk hno hL false ⟨m, hm.1, hl2⟩ hinv hdone
  exact ⟨⟨b, h1, h4⟩, h5⟩

/-- the same in the requested shape, "with the position cache active" (`hoff` is not used) -/
theorem mate_in_two_kept (env : Env) (G : Game P M) (p : P) (maxDepth : Option Nat) (tt0 : Table M)
    (hc : MonoClock env) (hoff : env.cacheOff = false) (he : EvalBoundedFrom G p) (hk : KeyMate G)
    (hno : NoMateInOne G p) (hL : LineKeys G p) (hd : NoDrawBelow3 G p)
    (hex : ∃ m, MateInTwoBy G p m ∧ G.inCheck (G.play p m) = false) (hinv : MateTwoInv G p tt0)
    (hdone : ∃ i ∈ (search env G p maxDepth tt0).infos, i.depth ≥ 3) :
    (∃ m, (search env G p maxDepth tt0).st.bestMove = some m ∧ Lost G (G.play p m)) ∧
    MateTwoInv G p (search env G p maxDepth tt0).st.tt :=
  mate_in_two_kept' env G p maxDepth tt0 hc he hk hno hL hd hex hinv hdone

/-- **Any key move: four plies.** -/
theorem mate_in_two_kept_four (env : Env) (G : Game P M) (p : P) (maxDepth : Option Nat) (tt0 : Table M)
    (hc : MonoClock env) (he : EvalBoundedFrom G p) (hk : KeyMate G)
    (hno : NoMateInOne G p) (hL : LineKeys G p) (hd : NoDrawBelow3 G p)
    (hex : ∃ m, MateInTwoBy G p m) (hinv : MateTwoInv G p tt0)
    (hdone : ∃ i ∈ (search env G p maxDepth tt0).infos, i.depth ≥ 4) :
    (∃ m, (search env G p maxDepth tt0).st.bestMove = some m ∧ Lost G (G.play p m)) ∧
    MateTwoInv G p (search env G p maxDepth tt0).st.tt := by
  obtain ⟨m, hm⟩ := hex
  have hl2 := l2_of_mateInTwoBy hm hd
  obtain ⟨i, hi, hid⟩ := hdone
  have hdone' : ∃ i ∈ (search env G p maxDepth tt0).infos, thr (G.inCheck (G.play p m)) + 1 ≤ i.depth :=
    ⟨i, hi, by unfold thr; split <;> omega⟩
  obtain ⟨⟨b, s, h1, _, _, h4⟩, h5⟩ := mate_in_two_found env G p maxDepth tt0 hc he hk hno hL _ ⟨m, hm.1, hl2⟩ hinv hdone'
  exact ⟨⟨b, h1, h4⟩, h5⟩

/-- the reported score is a mate score -/
theorem mate_in_two_score (env : Env) (G : Game P M) (p : P) (maxDepth : Option Nat) (tt0 : Table M)
    (hc : MonoClock env) (he : EvalBoundedFrom G p) (hk : KeyMate G)
    (hno : NoMateInOne G p) (hL : LineKeys G p) (hd : NoDrawBelow3 G p)
    (hex : ∃ m, MateInTwoBy G p m ∧ G.inCheck (G.play p m) = false) (hinv : MateTwoInv G p tt0)
    (hdone : ∃ i ∈ (search env G p maxDepth tt0).infos, i.depth ≥ 3) :
    ∃ s, (search env G p maxDepth tt0).st.bestScore = some s ∧ MAXS - 255 ≤ s := by
  obtain ⟨m, hm, hq⟩ := hex
  have hl2 := l2_of_mateInTwoBy hm hd
  rw [hq] at hl2
  obtain ⟨⟨_, s, _, h2, h3, _⟩, _⟩ := mate_in_two_found env G p maxDepth tt0 hc he hk hno hL false ⟨m, hm.1, hl2⟩ hinv hdone
  exact ⟨s, h2, h3⟩

open RCE.Proofs.SearchMateOne (Go cacheAfter)

/-- after any number of earlier searches of the position (any depths, limits, stop points, monotone clocks, cache on or
    off; completed or interrupted), starting from a cache that satisfies the invariant — the empty one, for instance —
    the invariant holds, so that a further search that completes a 3-ply iteration keeps the mate (quiet key move) -/
theorem mate_in_two_kept_again (G : Game P M) (p : P) (he : EvalBoundedFrom G p) (hk : KeyMate G)
    (hno : NoMateInOne G p) (hL : LineKeys G p) (hd : NoDrawBelow3 G p)
    (hex : ∃ m, MateInTwoBy G p m ∧ G.inCheck (G.play p m) = false) :
    ∀ (gs : List Go) (tt0 : Table M), MateTwoInv G p tt0 → (∀ g ∈ gs, MonoClock g.env) →
      MateTwoInv G p (cacheAfter G p gs tt0) ∧
      ∀ (env : Env) (maxDepth : Option Nat), MonoClock env →
        (∃ i ∈ (search env G p maxDepth (cacheAfter G p gs tt0)).infos, i.depth ≥ 3) →
        ∃ m, (search env G p maxDepth (cacheAfter G p gs tt0)).st.bestMove = some m ∧ Lost G (G.play p m) := by
  intro gs tt0 hinv hgs
  obtain ⟨m, hm, hq⟩ := hex
  have h := SearchMateOne.cacheAfter_inv (Inv := MateTwoInv G p) (H := fun g => MonoClock g.env) (fun g tt hg hi =>
    mateTwoInv_search g.env G p g.maxDepth tt hg he hk hno hL _ ⟨m, hm.1, l2_of_mateInTwoBy hm hd⟩ hi) gs tt0 hinv hgs
  exact ⟨h, fun env md hc hdone => (mate_in_two_kept' env G p md _ hc he hk hno hL hd ⟨m, hm, hq⟩ h hdone).1⟩

/-- the first search of a position, from the empty cache -/
theorem mate_in_two_kept_first (env : Env) (G : Game P M) (p : P) (maxDepth : Option Nat)
    (hc : MonoClock env) (he : EvalBoundedFrom G p) (hk : KeyMate G)
    (hno : NoMateInOne G p) (hL : LineKeys G p) (hd : NoDrawBelow3 G p)
    (hex : ∃ m, MateInTwoBy G p m ∧ G.inCheck (G.play p m) = false)
    (hdone : ∃ i ∈ (search env G p maxDepth {}).infos, i.depth ≥ 3) :
    ∃ m, (search env G p maxDepth {}).st.bestMove = some m ∧ Lost G (G.play p m) :=
  (mate_in_two_kept' env G p maxDepth {} hc he hk hno hL hd hex (mateTwoInv_empty G p) hdone).1

/-- `LineKeys` for a key that is injective on the tree and the root, when no node of the mating-line kinds lies below
    ply 250 -/
theorem lineKeys_of_inj {G : Game P M} {p : P} (hno : NoMateInOne G p)
    (hinj : ∀ n q n' q', TreeAt G p n q → TreeAt G p n' q' → G.key q = G.key q' → q = q')
    (hroot : ∀ n q, TreeAt G p n q → G.key q = G.key p → q = p)
    (hdeep : ∀ n q, TreeAt G p n q → (W1 G q ∨ ∃ b, L2 G b q) → n ≤ 250) : LineKeys G p := by
  refine ⟨?_, ?_, ?_, ?_⟩
  · intro n q n' q' hq hq' hkey hm
    cases hinj n q n' q' hq hq' hkey
    exact .inr (.inr hm.2.2.1)
  · intro n q n' q' hq hq' hkey hw
    cases hinj n q n' q' hq hq' hkey
    exact .inr ⟨hw, hdeep n q hq (.inl hw)⟩
  · intro n q n' q' b hq hq' hkey hl
    cases hinj n q n' q' hq hq' hkey
    exact .inr ⟨hl, hdeep n q hq (.inr ⟨b, hl⟩)⟩
  · intro n' q' hq' hw hkey
    cases hroot n' q' hq' hkey
    obtain ⟨_, _, x, hx, _, _, hM⟩ := hw
    exact hno x hx hM

/-- `LineKeys` for an injective key in a game whose positions have a rank that every move raises and that stays within
    250 of the root's: the tree has no node below ply 250 at all -/
theorem lineKeys_of_inj_rank {G : Game P M} {p : P} (hno : NoMateInOne G p) (hinj : ∀ a b, G.key a = G.key b → a = b)
    (rk : P → Nat) (hstep : ∀ q m, m ∈ legalMovesOf G q → rk q + 1 ≤ rk (G.play q m)) (hrk : ∀ q, rk q ≤ rk p + 250) :
    LineKeys G p :=
  lineKeys_of_inj hno (fun _ _ _ _ _ _ h => hinj _ _ h) (fun _ _ _ h => hinj _ _ h) fun n q hq _ => by
    have := hq.le_rank rk hstep
    have := hrk q
    omega

/-- the key `UInt64.ofNat p.val` of the games on `Fin n` below is injective -/
theorem ofNat_val_inj {n : Nat} (hn : n ≤ UInt64.size) {a b : Fin n} (h : UInt64.ofNat a.val = UInt64.ofNat b.val) : a = b := by
  have := congrArg UInt64.toNat h
  rw [UInt64.toNat_ofNat_of_lt' (Nat.lt_of_lt_of_le a.isLt hn), UInt64.toNat_ofNat_of_lt' (Nat.lt_of_lt_of_le b.isLt hn)] at this
  exact Fin.ext this

/-! ## the clean statement is false: a counterexample

`GC`, on `Fin 12` (a move is its target square, the key is injective, nothing is ever a draw):

    0 = root:  1 (static score 300), 2 (200), 3 (100)
    1 (in check) → 4, 5;   4 → 2;   5 → 8 → 9          (5 is fine for the defender: 9 is a stalemate)
    2 (in check) → 6 → 7,  7 is mated                    (so the move 2 is the key move of a mate in two)
    3 → 10 → 11                                          (worth 150, 50, 50 at depths 1, 2, 3)

The position 2 occurs at ply 1 and, by transposition, at ply 3 (0 → 1 → 4 → 2).

* iteration 1: the move 1 scores 100; the move 2 is searched in the null window `(−101, −100)`, its only reply is
  answered by the stand-pat score, `−100 ≥ β`: cut, `⟨−100, depth 1, lower⟩` is stored for 2 (depth 1 = asked depth 0
  plus the check extension); the move 3 scores 150.
* iteration 2: 3 drops to 50; the node 1 (in check, asked for depth 1) is answered by its depth-1 entry `−100, exact`
  of iteration 1 and becomes the best move with 100; the move 2, asked for depth 1 in `(−101, −100)`, is answered by
  its lower bound `−100 ≥ β`.  Nothing below 1 or 2 was searched in this iteration.
* iteration 3: 1 → 4 → 2 is the principal variation: 2 is asked for depth 1 in the full window; its depth-1 lower
  bound `−100` is usable and raises α to `−100`; the search at depth 2 (extension) sees the mate — every reply scores
  a mate for the opponent, `≤ α` — and returns α: `⟨−100, depth 2, exact⟩` is stored for a position that is mated in
  two.  Back at the root, the move 2 is asked for depth 2 and answered by that entry: 100, no better than the move 1.

The ingredients: the cache compares the stored depth (after the check extension) with the asked depth (before it), so
an in-check node asked for depth `d` may be answered by a search that was one ply shallower than the one it would
start; and a lower bound read from such an entry survives into the stored "exact" score of the deeper search.  For a
node that is mated in two and in check, the depth-2 entries are therefore unreliable; the depth-3 ones are not (their
lower bounds come from depth ≥ 2 entries, which a cut only writes with a mate score). -/
namespace Counter

def mvC : Fin 12 → List (Fin 12) := fun p => match p with
  | 0 => [1, 2, 3] | 1 => [4, 5] | 4 => [2] | 2 => [6] | 6 => [7] | 5 => [8] | 8 => [9] | 3 => [10] | 10 => [11] | _ => []
def ckC : Fin 12 → Bool := fun p => p == 1 || p == 2 || p == 7
def evC : Fin 12 → Int := fun p => match p with
  | 4 => 100 | 5 => 120 | 9 => 120 | 3 => -150 | 10 => 50 | 11 => -50 | _ => 0

def GC : Game (Fin 12) (Fin 12) where
  allMoves := mvC
  legal _ _ := true
  play _ m := m
  inCheck := ckC
  eval := evC
  fifty _ := false
  repeated _ := false
  key p := UInt64.ofNat p.val
  isCapture _ := false
  isPromotion _ := false
  staticScore m := match m with | 1 => 300 | 2 => 200 | 3 => 100 | _ => 0
  defaultMove := 0

def rC := search {} GC 0 (some 3) {}

-- the theorems below compare runs as terms; left reducible, `search` is unfolded by the unifier at each comparison
attribute [local irreducible] search

/-- info: ([1, 2, 3], some 1, some 100) -/
#guard_msgs in
#eval (rC.infos.map (·.depth), rC.st.bestMove, rC.st.bestScore)

theorem GC_key_inj : ∀ a b : Fin 12, GC.key a = GC.key b → a = b := fun _ _ h => ofNat_val_inj (by decide) h

theorem GC_keyMate : KeyMate GC := keyMate_of_inj GC GC_key_inj

theorem GC_evalBounded : EvalBoundedFrom GC 0 := evalBounded_of_forall (by decide +kernel) 0

theorem GC_noMateInOne : NoMateInOne GC 0 := by unfold NoMateInOne Mated; decide +kernel

/-- the move 2 is the key move of a mate in two: 0 → 2 → 6 → 7, and 7 is mated -/
theorem GC_mateInTwo : MateInTwoBy GC 0 2 := by unfold MateInTwoBy Mates Mated; decide +kernel

/-- the move 1 does not keep a forced mate: the reply 5 leads to 8 → 9, and 9 is a stalemate -/
theorem GC_not_lost_1 : ¬ Lost GC (GC.play 0 1) := not_lost GC 3 (by decide +kernel) (by decide +kernel)

/-- The clean statement, restricted to the FIRST search of a position (empty cache), with an injective key and a game
    without draws.  FALSE. -/
def mate_in_two_first_search_statement : Prop :=
  ∀ (P M : Type) [DecidableEq M] (env : Env) (G : Game P M) (p : P) (maxDepth : Option Nat),
    MonoClock env → env.cacheOff = false → EvalBoundedFrom G p → KeyMate G →
    (∀ a b, G.key a = G.key b → a = b) → (∀ q, G.fifty q = false ∧ G.repeated q = false) →
    NoMateInOne G p → (∃ m, MateInTwoBy G p m) →
    (∃ i ∈ (search env G p maxDepth {}).infos, i.depth ≥ 3) →
    ∃ m, (search env G p maxDepth {}).st.bestMove = some m ∧ Lost G (G.play p m)

/-- `mate_in_two_first_search_statement` fails, given the run displayed by the `#eval` above -/
theorem mate_in_two_first_search_refuted
    (hrun : (∃ i ∈ rC.infos, i.depth ≥ 3) ∧ rC.st.bestMove = some 1) :
    ¬ mate_in_two_first_search_statement := fun h =>
  refute_best (h (Fin 12) (Fin 12) {} GC 0 (some 3) (monoClock_default _ _ _) rfl GC_evalBounded
    GC_keyMate GC_key_inj (fun _ => ⟨rfl, rfl⟩) GC_noMateInOne ⟨2, GC_mateInTwo⟩ hrun.1) hrun.2 GC_not_lost_1

/-- The full statement as specified: some cache invariant holds of the empty cache, is re-established by every search,
    and guarantees that a mate in two is kept once a 3-ply iteration has completed (cache on; here even with an
    injective key and no draws at all).  FALSE: its instance for the empty cache is the statement above. -/
def mate_in_two_kept_statement : Prop :=
  ∃ Inv : (P M : Type) → [DecidableEq M] → Game P M → P → Table M → Prop,
    (∀ (P M : Type) [DecidableEq M] (G : Game P M) (p : P), Inv P M G p {}) ∧
    ∀ (P M : Type) [DecidableEq M] (env : Env) (G : Game P M) (p : P) (maxDepth : Option Nat) (tt0 : Table M),
      MonoClock env → env.cacheOff = false → EvalBoundedFrom G p → KeyMate G →
      (∀ a b, G.key a = G.key b → a = b) → (∀ q, G.fifty q = false ∧ G.repeated q = false) →
      NoMateInOne G p → (∃ m, MateInTwoBy G p m) → Inv P M G p tt0 →
      (∃ i ∈ (search env G p maxDepth tt0).infos, i.depth ≥ 3) →
      (∃ m, (search env G p maxDepth tt0).st.bestMove = some m ∧ Lost G (G.play p m)) ∧
      Inv P M G p (search env G p maxDepth tt0).st.tt

theorem mate_in_two_kept_refuted (hrun : (∃ i ∈ rC.infos, i.depth ≥ 3) ∧ rC.st.bestMove = some 1) :
    ¬ mate_in_two_kept_statement := by
  rintro ⟨Inv, h0, h⟩
  apply mate_in_two_first_search_refuted hrun
  intro P M _ env G p md hc hoff he hk hinj hnd hno hex hdone
  exact (h P M env G p md {} hc hoff he hk hinj hnd hno hex (h0 P M G p) hdone).1

/-! ### the extra hypotheses of `mate_in_two_kept'` cannot be dropped; and they can be met

`GC` above satisfies every hypothesis of `mate_in_two_kept'` except that its key move gives check: a checking key move
needs the 4-ply iteration (`mate_in_two_kept_four`).  `mkG true` below satisfies every hypothesis except `NoDrawBelow3`:
the mated position is declared a draw by repetition before the mate test.  `mkG false` satisfies them all. -/

def rkC : Fin 12 → Nat := fun p => match p with
  | 0 => 0 | 1 => 1 | 3 => 1 | 4 => 2 | 5 => 2 | 10 => 2 | 2 => 3 | 8 => 3 | 11 => 3 | 6 => 4 | 9 => 4 | _ => 5

theorem GC_lineKeys : LineKeys GC 0 := lineKeys_of_inj_rank GC_noMateInOne GC_key_inj rkC (by decide +kernel) (by decide +kernel)

theorem GC_noDraw : NoDrawBelow3 GC 0 := fun _ _ _ _ => ⟨rfl, rfl⟩

/-- `mate_in_two_kept'` (first search) without the proviso that the key move is quiet.  FALSE. -/
def mate_in_two_checking_key_statement : Prop :=
  ∀ (P M : Type) [DecidableEq M] (env : Env) (G : Game P M) (p : P) (maxDepth : Option Nat),
    MonoClock env → EvalBoundedFrom G p → KeyMate G → NoMateInOne G p → LineKeys G p → NoDrawBelow3 G p →
    (∃ m, MateInTwoBy G p m) → (∃ i ∈ (search env G p maxDepth {}).infos, i.depth ≥ 3) →
    ∃ m, (search env G p maxDepth {}).st.bestMove = some m ∧ Lost G (G.play p m)

theorem mate_in_two_checking_key_refuted
    (hrun : (∃ i ∈ rC.infos, i.depth ≥ 3) ∧ rC.st.bestMove = some 1) :
    ¬ mate_in_two_checking_key_statement := fun h =>
  refute_best (h (Fin 12) (Fin 12) {} GC 0 (some 3) (monoClock_default _ _ _) GC_evalBounded
    GC_keyMate GC_noMateInOne GC_lineKeys GC_noDraw ⟨2, GC_mateInTwo⟩ hrun.1) hrun.2 GC_not_lost_1

/-- with the 4-ply iteration the mate is kept in `GC` too -/
theorem GC_kept_four (hrun : ∃ i ∈ (search {} GC 0 (some 4) {}).infos, i.depth ≥ 4) :
    ∃ m, (search {} GC 0 (some 4) {}).st.bestMove = some m ∧ Lost GC (GC.play 0 m) :=
  (mate_in_two_kept_four {} GC 0 (some 4) {} (monoClock_default _ _ _) GC_evalBounded GC_keyMate GC_noMateInOne
    GC_lineKeys GC_noDraw ⟨2, GC_mateInTwo⟩ (mateTwoInv_empty GC 0) hrun).1

/-- info: ([1, 2, 3, 4], some 2, some 32765) -/
#guard_msgs in
#eval ((search {} GC 0 (some 4) {}).infos.map (·.depth), (search {} GC 0 (some 4) {}).st.bestMove,
  (search {} GC 0 (some 4) {}).st.bestScore)

/-! 0 = root: 1 (quiet key move: 1 → 2 → 3, and 3 is mated), 4 (4 → 5 → 6, worth 50);  `rep` = "3 is a repetition" -/

def mvD : Fin 8 → List (Fin 8) := fun p => match p with
  | 0 => [1, 4] | 1 => [2] | 2 => [3] | 4 => [5] | 5 => [6] | _ => []

def mkG (rep : Bool) : Game (Fin 8) (Fin 8) where
  allMoves := mvD
  legal _ _ := true
  play _ m := m
  inCheck p := p == 3
  eval p := match p with | 4 => -50 | 5 => 50 | 6 => -50 | _ => 0
  fifty _ := false
  repeated p := rep && p == 3
  key p := UInt64.ofNat p.val
  isCapture _ := false
  isPromotion _ := false
  staticScore _ := 0
  defaultMove := 0

theorem mkG_key_inj (rep : Bool) : ∀ a b : Fin 8, (mkG rep).key a = (mkG rep).key b → a = b :=
  fun _ _ h => ofNat_val_inj (by decide) h

theorem mkG_keyMate (rep : Bool) : KeyMate (mkG rep) := keyMate_of_inj _ (mkG_key_inj rep)

theorem mkG_evalBounded (rep : Bool) : EvalBoundedFrom (mkG rep) 0 := by
  cases rep <;> exact evalBounded_of_forall (by decide +kernel) 0

theorem mkG_noMateInOne (rep : Bool) : NoMateInOne (mkG rep) 0 := by
  cases rep <;> unfold NoMateInOne Mated <;> decide +kernel

theorem mkG_lineKeys (rep : Bool) : LineKeys (mkG rep) 0 :=
  lineKeys_of_inj_rank (mkG_noMateInOne rep) (mkG_key_inj rep) (fun q => q.val) (by cases rep <;> decide +kernel) (by decide +kernel)

theorem mkG_mateInTwo (rep : Bool) : MateInTwoBy (mkG rep) 0 1 ∧ (mkG rep).inCheck ((mkG rep).play 0 1) = false := by
  cases rep <;> unfold MateInTwoBy Mates Mated <;> decide +kernel

theorem mkG_not_lost_4 (rep : Bool) : ¬ Lost (mkG rep) ((mkG rep).play 0 4) := by
  cases rep <;> exact not_lost _ 2 (by decide +kernel) (by decide +kernel)

/-- `mate_in_two_kept'` (first search) without `NoDrawBelow3`.  FALSE. -/
def mate_in_two_draws_allowed_statement : Prop :=
  ∀ (P M : Type) [DecidableEq M] (env : Env) (G : Game P M) (p : P) (maxDepth : Option Nat),
    MonoClock env → EvalBoundedFrom G p → KeyMate G → NoMateInOne G p → LineKeys G p →
    (∃ m, MateInTwoBy G p m ∧ G.inCheck (G.play p m) = false) →
    (∃ i ∈ (search env G p maxDepth {}).infos, i.depth ≥ 3) →
    ∃ m, (search env G p maxDepth {}).st.bestMove = some m ∧ Lost G (G.play p m)

def rD := search {} (mkG true) 0 (some 3) {}
def rE := search {} (mkG false) 0 (some 3) {}

/-- info: ([1, 2, 3], some 4, some 50, [1, 2, 3], some 1, some 32765) -/
#guard_msgs in
#eval (rD.infos.map (·.depth), rD.st.bestMove, rD.st.bestScore, rE.infos.map (·.depth), rE.st.bestMove, rE.st.bestScore)

theorem mate_in_two_draws_allowed_refuted (hrun : (∃ i ∈ rD.infos, i.depth ≥ 3) ∧ rD.st.bestMove = some 4) :
    ¬ mate_in_two_draws_allowed_statement := fun h =>
  refute_best (h (Fin 8) (Fin 8) {} (mkG true) 0 (some 3) (monoClock_default _ _ _) (mkG_evalBounded true)
    (mkG_keyMate true) (mkG_noMateInOne true) (mkG_lineKeys true) ⟨1, mkG_mateInTwo true⟩ hrun.1) hrun.2
    (mkG_not_lost_4 true)

/-- all hypotheses of `mate_in_two_kept'` hold of `mkG false`: the theorem applies to the run displayed above -/
theorem mkG_false_kept (hrun : ∃ i ∈ rE.infos, i.depth ≥ 3) :
    ∃ m, rE.st.bestMove = some m ∧ Lost (mkG false) ((mkG false).play 0 m) :=
  mate_in_two_kept_first {} (mkG false) 0 (some 3) (monoClock_default _ _ _) (mkG_evalBounded false)
    (mkG_keyMate false) (mkG_noMateInOne false) (mkG_lineKeys false) (fun _ _ _ _ => ⟨rfl, rfl⟩)
    ⟨1, mkG_mateInTwo false⟩ hrun

/-! ### `KeyMate` does not suffice as key hypothesis

0 = root: 4 (static score 300), 1 (the quiet key move: 1 → 2 → 3, and 3 is mated);  4 → 5, 9;  5 → 6 → 7 → 8 with 8 mated
(so 5 is won, in two); 9 → 10 → 11 is harmless.  The position 5 has the key of the position 2: both are won, `KeyMate`
holds, but 5 does not mate at once (`LineKeys.won` fails).  In the 3-ply iteration 5 is searched one ply deep and
stores `⟨0, depth 1, exact⟩`; the node 2, asked for depth 1 on the mating line, is answered by it. -/

def mvK : Fin 12 → List (Fin 12) := fun p => match p with
  | 0 => [4, 1] | 1 => [2] | 2 => [3] | 4 => [5, 9] | 5 => [6] | 6 => [7] | 7 => [8] | 9 => [10] | 10 => [11] | _ => []

def GK : Game (Fin 12) (Fin 12) where
  allMoves := mvK
  legal _ _ := true
  play _ m := m
  inCheck p := p == 3 || p == 8
  eval _ := 0
  fifty _ := false
  repeated _ := false
  key p := if p = 5 then 2 else UInt64.ofNat p.val
  isCapture _ := false
  isPromotion _ := false
  staticScore m := match m with | 4 => 300 | 1 => 100 | _ => 0
  defaultMove := 0

/-- three rounds of the mate solver find every forced mate of `GK` -/
theorem GK_stable : ∀ p, lostWithin GK (3 + 1) p = lostWithin GK 3 p := by decide +kernel

theorem GK_keyMate : KeyMate GK := keyMate_of_solver GK 3 GK_stable (by decide +kernel)

theorem GK_noMateInOne : NoMateInOne GK 0 := by unfold NoMateInOne Mated; decide +kernel

theorem GK_mateInTwo : MateInTwoBy GK 0 1 ∧ GK.inCheck (GK.play 0 1) = false := by
  unfold MateInTwoBy Mates Mated; decide +kernel

theorem GK_not_lost_4 : ¬ Lost GK (GK.play 0 4) := not_lost GK 3 GK_stable (by decide +kernel)

/-- `mate_in_two_kept'` (first search) without `LineKeys`.  FALSE. -/
def mate_in_two_keyMate_only_statement : Prop :=
  ∀ (P M : Type) [DecidableEq M] (env : Env) (G : Game P M) (p : P) (maxDepth : Option Nat),
    MonoClock env → EvalBoundedFrom G p → KeyMate G → NoMateInOne G p → NoDrawBelow3 G p →
    (∃ m, MateInTwoBy G p m ∧ G.inCheck (G.play p m) = false) →
    (∃ i ∈ (search env G p maxDepth {}).infos, i.depth ≥ 3) →
    ∃ m, (search env G p maxDepth {}).st.bestMove = some m ∧ Lost G (G.play p m)

def rK := search {} GK 0 (some 3) {}

/-- info: ([1, 2, 3], some 4, some 0) -/
#guard_msgs in
#eval (rK.infos.map (·.depth), rK.st.bestMove, rK.st.bestScore)

theorem mate_in_two_keyMate_only_refuted (hrun : (∃ i ∈ rK.infos, i.depth ≥ 3) ∧ rK.st.bestMove = some 4) :
    ¬ mate_in_two_keyMate_only_statement := fun h =>
  refute_best (h (Fin 12) (Fin 12) {} GK 0 (some 3) (monoClock_default _ _ _) (evalBounded_of_forall (by decide +kernel) 0)
    GK_keyMate GK_noMateInOne (fun _ _ _ _ => ⟨rfl, rfl⟩) ⟨1, GK_mateInTwo⟩ hrun.1) hrun.2 GK_not_lost_4

end Counter

end RCE.Proofs.SearchMateTwo

#print axioms RCE.Proofs.SearchMateTwo.mate_in_two_found
#print axioms RCE.Proofs.SearchMateTwo.mateTwoInv_search
#print axioms RCE.Proofs.SearchMateTwo.mateTwoInv_empty
#print axioms RCE.Proofs.SearchMateTwo.mate_in_two_kept
#print axioms RCE.Proofs.SearchMateTwo.mate_in_two_kept'
#print axioms RCE.Proofs.SearchMateTwo.mate_in_two_kept_four
#print axioms RCE.Proofs.SearchMateTwo.mate_in_two_score
#print axioms RCE.Proofs.SearchMateTwo.mate_in_two_kept_again
#print axioms RCE.Proofs.SearchMateTwo.mate_in_two_kept_first
#print axioms RCE.Proofs.SearchMateTwo.lineKeys_of_inj
#print axioms RCE.Proofs.SearchMateTwo.Counter.mate_in_two_first_search_refuted
#print axioms RCE.Proofs.SearchMateTwo.Counter.mate_in_two_kept_refuted
#print axioms RCE.Proofs.SearchMateTwo.Counter.mate_in_two_checking_key_refuted
#print axioms RCE.Proofs.SearchMateTwo.Counter.mate_in_two_draws_allowed_refuted
#print axioms RCE.Proofs.SearchMateTwo.Counter.mate_in_two_keyMate_only_refuted
#print axioms RCE.Proofs.SearchMateTwo.Counter.GC_kept_four
#print axioms RCE.Proofs.SearchMateTwo.Counter.mkG_false_kept
