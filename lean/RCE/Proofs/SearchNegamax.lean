import RCE.Proofs.SearchNegamaxBase
import RCE.Proofs.SearchAcross
/-! C11: the fail-hard PVS search with the cache neutralised and nothing limiting it arrives at the
    plain minimax value of the engine's look-ahead game.

    The state plays no part beyond `Live`: the search is running and at the expected ply, which every routine keeps
    (`Kept`), so that no abort check fires below the ply cap.  What remains is the arithmetic of windows: a child's
    result satisfies `Good` for its window (through the PVS window logic by `SearchRules.pvsChild_neg`), a move loop
    returns the running maximum or cuts. -/
namespace RCE.Proofs.SearchNegamax
open RCE.Search RCE.Proofs.SearchDefs RCE.Proofs.SearchUnfold RCE.Proofs.SearchRules

variable {P M : Type} [DecidableEq M]
set_option linter.unusedSectionVars false

def Live (ply : Nat) (st : St M) : Prop := st.running = true ∧ st.ply = ply

/-- C11's contract for the search of a child at ply `ply`, assumed by induction on the fuel and proved of `quiesce` and
    `ab` (`quiesce_spec`, `ab_spec`): running and on a proper window inside `i16`, it returns a value that is `Good` for
    the minimax value `val` of the same fuel. -/
def RecSpec (G : Game P M) (rec : P → Int → Int → Nat → St M → Int × St M) (val : P → Nat → Int) (ply : Nat) : Prop :=
  ∀ c a b depth st, Live ply st → EvalBoundedFrom G c → -32767 ≤ a → a < b → b ≤ 32767 →
    Good (val c depth) a b (rec c a b depth st).1

def ValRange (G : Game P M) (val : P → Nat → Int) : Prop :=
  ∀ c depth, EvalBoundedFrom G c → -32767 ≤ val c depth ∧ val c depth ≤ 32767

section
variable {env : Env} (hu : Unlimited env) {G : Game P M}
include hu

theorem Live.kept {ply : Nat} {s t : St M} (h : Live ply s) (hk : Kept env G s t) : Live ply t :=
  ⟨(hk.running hu).trans h.1, hk.ply.trans h.2⟩

/-- a live search is stopped by the ply cap and by nothing else -/
theorem Live.fires {ply : Nat} {st : St M} (h : Live ply st) : (abortCheck env st).1 = (ply == 255) := by
  rw [(abortCheck_unl env st hu).2 h.1, h.2]

theorem Live.check {ply : Nat} {st : St M} (h : Live ply st) (h255 : ply ≠ 255) :
    (abortCheck env st).1 = false ∧ Live ply (abortCheck env st).2 := by
  refine ⟨?_, (abortCheck_unl env st hu).1.trans h.1, (abortCheck_frame env st).ply.trans h.2⟩
  rw [h.fires hu]
  simpa using h255

theorem Live.child {ply : Nat} {st : St M} (h : Live ply st) {rec : P → Int → Int → Nat → St M → Int × St M}
    (hR : ∀ c a b d s, Kept env G s (rec c a b d s).2) {p : P} {m : M} {alpha beta : Int} {depth : Nat}
    {pvs updSel : Bool} {r : Int × St M} (hr : r = pvsChild G rec p m alpha beta depth pvs updSel st) : Live ply r.2 :=
  hr ▸ h.kept hu ((kept_across env G).pvsChild hR G p m alpha beta depth pvs updSel st)

theorem pvsChild_spec {rec : P → Int → Int → Nat → St M → Int × St M} (hR : ∀ c a b d s, Kept env G s (rec c a b d s).2)
    {val : P → Nat → Int} {ply : Nat} (hrec : RecSpec G rec val (ply + 1)) (hv : ValRange G val)
    {p : P} {m : M} {alpha beta : Int} {depth : Nat} {pvs updSel : Bool} {st : St M}
    (hl : Live ply st) (hc : EvalBoundedFrom G (G.play p m))
    (h1 : -32768 ≤ alpha) (h2 : alpha < beta) (h3 : beta ≤ 32767) (h4 : -32767 < beta) {r : Int × St M}
    (hr : r = pvsChild G rec p m alpha beta depth pvs updSel st) :
    Good (- val (G.play p m) (depth - 1)) alpha beta r.1 := by
  have hvr := hv (G.play p m) (depth - 1) hc
  subst hr
  obtain ⟨_, r, -, -, e, h⟩ := pvsChild_neg (pvs := pvs) (upd := updSel) (st := st)
    (S := Live (ply + 1)) (T := fun r => -32767 ≤ r ∧ r ≤ 32767) (A := fun _ r => r ≤ val (G.play p m) (depth - 1))
    (B := fun _ r => val (G.play p m) (depth - 1) ≤ r) h1 h2 h3 h4 ⟨hl.1, congrArg (· + 1) hl.2⟩ (fun _ _ => by rw [satNeg_eq]; omega)
    fun x y s _ hx hxy hy hs e => by
      subst e
      have g := hrec (G.play p m) x y (depth - 1) s hs hc hx hxy hy
      refine ⟨hs.kept hu (hR ..), ?_, ?_, g⟩ <;> · unfold Good Bnd at g; omega
  rw [e]
  simp only [Good, Bnd] at h ⊢
  omega

/-- the quiescence loop returns the maximum of alpha and the moves' values, clamped at beta -/
theorem qKids_spec {rec : P → Int → Int → St M → Int × St M} (hR : ∀ c a b s, Kept env G s (rec c a b s).2)
    {val : P → Int} {ply : Nat} (hrec : RecSpec G (fun c a b _ => rec c a b) (fun c _ => val c) (ply + 1))
    (hv : ValRange G (fun c _ => val c)) (p : P) (hp : EvalBoundedFrom G p) (ks : List M) (alpha beta : Int) (st : St M)
    (hsub : ∀ m ∈ ks, m ∈ legalMovesOf G p) (hl : Live ply st) (ha : -32767 ≤ alpha) (hab : alpha < beta)
    (hb : beta ≤ 32767) :
    (qKids G rec p ks alpha beta st).val beta = min beta (maxList alpha (ks.map fun m => - val (G.play p m))) := by
  refine qKids_ind (Post := fun res => res.val beta = min beta (maxList alpha (ks.map fun m => - val (G.play p m))))
    (Inv := fun done al s => Live ply s ∧ -32767 ≤ al ∧ al < beta ∧
      al = maxList alpha (done.map fun m => - val (G.play p m))) hsub ?_ ⟨hl, ha, hab, rfl⟩
    (fun al s h => by show al = min beta _; rw [← h.2.2.2]; have := h.2.2.1; omega)
  intro done m rest al s r hL hm ⟨i1, i2, i3, i4⟩ hr
  have hc : EvalBoundedFrom G (G.play p m) := evalBounded_step hp (mem_legalMovesOf.1 hm).1
  have hg := pvsChild_spec hu (fun c a b _ s => hR c a b s) hrec hv i1 hc (by omega) i3 hb (by omega) hr
  have hst := i1.child hu (fun c a b _ s => hR c a b s) hr
  refine ⟨fun hcut => ?_, fun hlt => ⟨hst, by omega, by omega, ?_⟩⟩
  · have := hg.cut i3 hcut (a0 := alpha) (List.mem_map_of_mem (f := fun m => - val (G.play p m))
      (hL ▸ List.mem_append_right done List.mem_cons_self))
    show beta = min beta _
    omega
  · rw [List.map_append, List.map_cons, List.map_nil, maxList_concat, ← i4, hg.raise hlt]

/-- the same for `abKids_ind`; with nothing limiting the search the loop is never aborted; it cuts at a move, so there is
    one; a completed loop has counted `cnt` moves (so that `n = 0` means "no legal move") and is back at its ply (the mate
    score is `MINS + ply`) -/
def LPost (ply : Nat) (beta v : Int) (cnt : Nat) : Loop M → Prop
  | .abort _ => False
  | .cut _ => beta ≤ v ∧ cnt ≠ 0
  | .done a _ n st' => a = v ∧ a < beta ∧ n = cnt ∧ st'.ply = ply

theorem abKids_spec {rec : P → Int → Int → Nat → St M → Int × St M} (hR : ∀ c a b d s, Kept env G s (rec c a b d s).2)
    {val : P → Nat → Int} {ply : Nat} (hrec : RecSpec G rec val (ply + 1)) (hv : ValRange G val) (h255 : ply ≠ 255)
    {p : P} (hp : EvalBoundedFrom G p) {depth : Nat} {ks : List M} {alpha beta : Int} {best : M} {pvs : Bool} {n : Nat}
    {st : St M} (hsub : ∀ m ∈ ks, m ∈ legalMovesOf G p) (hl : Live ply st) (ha : -32767 ≤ alpha) (hab : alpha < beta)
    (hb : beta ≤ 32767) {out : Loop M} (hout : out = abKids env G rec p depth ks alpha beta best pvs n st) :
    LPost ply beta (maxList alpha (ks.map fun m => - val (G.play p m) (depth - 1))) (n + ks.length) out := by
  rw [hout]
  refine abKids_ind (Inv := fun done al _ n' s => Live ply s ∧ -32767 ≤ al ∧ al < beta ∧ n' = n + done.length ∧
      al = maxList alpha (done.map fun m => - val (G.play p m) (depth - 1))) hsub ?_ ⟨hl, ha, hab, rfl, rfl⟩
    (fun al _ n' s h => ⟨h.2.2.2.2, h.2.2.1, h.2.2.2.1, h.1.2⟩)
  intro done m rest al _ pvs' n' s r c hL hm ⟨i1, i2, i3, i4, i5⟩ hr hcc
  have hc : EvalBoundedFrom G (G.play p m) := evalBounded_step hp (mem_legalMovesOf.1 hm).1
  have hg := pvsChild_spec hu hR hrec hv i1 hc (by omega) i3 hb (by omega) hr
  obtain ⟨hac, hst⟩ := (i1.child hu hR hr).check hu h255
  rw [← hcc] at hac hst
  refine ⟨fun hf => (by rw [hac] at hf; cases hf), fun _ hcut => ?_,
    fun _ hlt => ⟨hst, by omega, by omega, by rw [i4, List.length_append]; simp; omega, ?_⟩⟩
  · exact ⟨hg.cut i3 hcut (List.mem_map_of_mem (f := fun m => - val (G.play p m) (depth - 1))
      (hL ▸ List.mem_append_right done List.mem_cons_self)), by rw [hL, List.length_append]; simp⟩
  · rw [List.map_append, List.map_cons, List.map_nil, maxList_concat, ← i5, hg.raise hlt]

theorem quiesce_spec :
    ∀ fuel ply, RecSpec G (fun c a b _ => quiesce env G fuel c a b) (fun c _ => nmQuiesce G fuel c ply) ply := by
  intro fuel
  induction fuel with
  | zero => intro ply c a b _ st _ _ _ _ _; exact good_self _ _ _
  | succ fuel ih =>
    intro ply p a b _ st hl hc ha hab hb
    show Good (nmQuiesce G (fuel + 1) p ply) a b (quiesce env G (fuel + 1) p a b st).1
    rw [quiesce_succ, nmQuiesce]
    dsimp only
    by_cases h255 : ply = 255
    · rw [hl.fires hu, h255]
      exact good_self _ _ _
    · obtain ⟨hac, hst⟩ := hl.check hu h255
      have hge := maxList_ge (((legalMovesOf G p).filter G.isCapture).map fun m => - nmQuiesce G fuel (G.play p m) (ply + 1))
        (G.eval p)
      simp only [hac, h255, Bool.false_eq_true, if_false]
      split
      · unfold Good Bnd; omega
      · have hperm := ordered_captures_perm G p (((abortCheck env st).2.tt[G.key p]?).map (·.best))
          ((abortCheck env st).2.killers.getD (abortCheck env st).2.ply (none, none))
        have hmax : (if G.eval p > a then G.eval p else a) = max a (G.eval p) := by split <;> omega
        rw [qKids_filter, hmax]
        have hq := qKids_spec hu (fun c a b s => (kept_across env G).toAcrossQ.quiesce G fuel c a b s) (ih (ply + 1))
          (fun c _ hc => nmQuiesce_range G fuel c _ hc) p hc _ (max a (G.eval p)) b _
          (fun m hm => (List.mem_filter.1 (hperm.mem_iff.1 hm)).1) hst (by omega) (by omega) hb
        rw [maxList_perm (hperm.map _), maxList_max] at hq
        show Good _ a b (QLoop.val b _)
        rw [hq]
        unfold Good Bnd; omega

theorem ab_spec (hoff : env.cacheOff = true) :
    ∀ fuel ply, ply ≤ 255 → RecSpec G (ab env G fuel) (fun c d => negamax G fuel c d ply) ply := by
  intro fuel
  induction fuel with
  | zero => intro ply _ c a b d st _ _ _ _ _; exact good_self _ _ _
  | succ fuel ih =>
    intro ply hply p a b depth st hl hc ha hab hb
    show Good (negamax G (fuel + 1) p depth ply) a b _
    rw [negamax_succ G fuel p depth ply _ rfl]
    have hfire : (abortCheck env st).1 = true → ply = 255 := fun h => by
      rw [hl.fires hu] at h; simpa using h
    refine ab_cases (Q := fun r => Good _ a b r.1) (fun c hcc hor => ?_) fun c st2 hcc hf h50 hrep hst2 => ?_
    · -- the ply cap or a draw: both sides are 0
      rcases hor with h | h | h
      · rw [if_pos (hfire (hcc ▸ h))]; exact good_self _ _ _
      · simp only [h, Bool.true_or, if_true, ite_self]; exact good_self _ _ _
      · simp only [h, Bool.or_true, if_true, ite_self]; exact good_self _ _ _
    have h255 : ply ≠ 255 := fun h => by
      rw [hcc, hl.fires hu, h] at hf; cases hf
    have hl2 : Live ply st2 := by
      rw [hst2, hcc, probeSt_eq]; exact (hl.check hu h255).2
    have htt : st2.tt = {} := by rw [hst2, probeSt_eq, hoff]; rfl
    rw [htt]
    simp only [h255, h50, hrep, Bool.or_self, Bool.false_eq_true, if_false]
    refine ⟨fun s h => (by rw [probe_of_none Std.HashMap.getElem?_empty] at h; cases h), fun a' b' d h hd => ?_⟩
    rw [probe_of_none Std.HashMap.getElem?_empty] at h
    cases h
    rw [← hd]
    refine ⟨fun h0 => (by rw [if_pos h0]; exact quiesce_spec hu (fuel + 1) ply p a b 0 st2 hl2 hc ha hab hb),
      fun h0 out hout => ?_⟩
    rw [if_neg h0]
    -- the loop: the running maximum over the legal moves, or a cut
    have hperm := ordered_legal_perm G p ((({} : Table M)[G.key p]?).map (·.best)) (st2.killers.getD st2.ply (none, none))
    rw [abKids_filter] at hout
    have hk := abKids_spec hu (fun c a b d s => (kept_across env G).ab fuel c a b d s) (ih (ply + 1) (by omega))
      (fun c d hc => negamax_range G fuel c d _ hc (by omega) (by omega)) h255 hc (fun m hm => hperm.mem_iff.1 hm)
      hl2 ha hab hb hout
    have hlist : ∀ l : List Int, maxList a l = max a (maxList MINS l) := fun l => by
      rw [← maxList_max]; congr 1; simp only [MINS]; omega
    rw [maxList_perm (hperm.map _), hlist, hperm.length_eq, Nat.zero_add] at hk
    generalize maxList MINS ((legalMovesOf G p).map fun m => - negamax G fuel (G.play p m) (d - 1) (ply + 1)) = V
      at hk ⊢
    have hM : MINS = -32768 := rfl
    cases out with
    | abort s => exact hk.elim
    | cut s =>
      obtain ⟨g1, g2⟩ : b ≤ max a V ∧ (legalMovesOf G p).length ≠ 0 := hk
      rw [if_neg (mt List.isEmpty_iff_length_eq_zero.1 g2)]
      show Good V a b b
      unfold Good Bnd; omega
    | done al bst n s =>
      obtain ⟨g3, g4, g5, g6⟩ := hk
      refine ⟨fun hn => ?_, fun hn => ?_⟩
      · rw [if_pos (List.isEmpty_iff_length_eq_zero.2 (by omega))]
        split
        · show Good _ a b (MINS + s.ply); rw [g6]; exact good_self _ _ _
        · exact good_self _ _ _
      · rw [if_neg (mt List.isEmpty_iff_length_eq_zero.1 (by omega))]
        show Good V a b al
        unfold Good Bnd; omega

def IterOK (G : Game P M) (p : P) (depth : Nat) (st : St M) : Prop :=
  Live 0 st ∧ st.bestScore = some (rootValue G p depth) ∧
  ∃ m, st.bestMove = some m ∧ m ∈ legalMovesOf G p ∧ rootMoveValue G p depth m = rootValue G p depth

/-- the invariant given to `abStart_ind`: after the legal moves `done`, alpha is the maximum of their values and `best`
    a move that has it (the window is open above, so no move cuts and every raise of alpha is exact) -/
def RootV (G : Game P M) (p : P) (depth : Nat) (done : List M) (alpha : Int) (best : M) (s : St M) : Prop :=
  Live 0 s ∧ alpha = maxList MINS (done.map (rootMoveValue G p depth)) ∧ alpha ≤ 32767 ∧
  (done ≠ [] → -32767 ≤ alpha ∧ best ∈ done ∧ rootMoveValue G p depth best = alpha)

theorem abStart_spec (hoff : env.cacheOff = true) (p : P)
    (he : EvalBoundedFrom G p) (hl : legalMovesOf G p ≠ []) (depth : Nat) (st : St M) (hst : Live 0 st) :
    IterOK G p depth (abStart env G p depth st) := by
  have hK := fun c a b d s => (kept_across env G).ab 255 c a b d s
  have hvr : ValRange G (fun c d => negamax G 255 c d 1) :=
    fun c d hc => negamax_range G 255 c d _ hc (by omega) (by omega)
  have hperm := ordered_legal_perm G p ((st.tt[G.key p]?).map (·.best)) (st.killers.getD st.ply (none, none))
  have hM : MINS = -32768 ∧ MAXS = 32767 := ⟨rfl, rfl⟩
  refine abStart_ind_ne (Inv := fun done al best _ s => RootV G p depth done al best s) hl
    (fun _ => ⟨hst, rfl, by omega, fun h => absurd rfl h⟩) ?_ ?_
  · intro done m _ al best pvs _ s r c _ hm ⟨i1, i2, i3, i4⟩ hr hc
    have hal : MINS ≤ al := i2 ▸ maxList_ge _ _
    have hcb : EvalBoundedFrom G (G.play p m) := evalBounded_step he (mem_legalMovesOf.1 hm).1
    have hx : -32767 ≤ rootMoveValue G p depth m ∧ rootMoveValue G p depth m ≤ 32767 := by
      have := hvr _ (depth - 1) hcb
      simp only [] at this
      unfold rootMoveValue
      omega
    obtain ⟨hac, hst2⟩ := (i1.child hu hK hr).check hu (by omega)
    have hin : InR r.1 := hr ▸ pvsChild_inR G (ab env G 255) p m al MAXS depth pvs false s
    rw [inR_iff] at hin
    have hs := good_step_root hx.2 hin.2 fun hmax =>
      pvsChild_spec hu hK (ab_spec hu hoff 255 1 (by omega)) hvr i1 hcb (by omega) (by omega) (by omega) (by omega) hr
    rw [← hc] at hac hst2
    refine ⟨fun hf => (by rw [hac] at hf; cases hf), fun _ => ⟨hst2, ?_, by omega, fun _ => ?_⟩⟩
    · rw [List.map_append, List.map_cons, List.map_nil, maxList_concat, ← i2, hs.1]
    · by_cases hlt : al < r.1
      · rw [if_pos hlt]
        exact ⟨by omega, List.mem_append_right _ List.mem_cons_self, by rw [hs.2 hlt]; omega⟩
      · rw [if_neg hlt]
        by_cases hd : done = []
        · subst hd
          simp only [List.map_nil, maxList_nil] at i2
          omega
        · obtain ⟨g1, g2, g3⟩ := i4 hd
          exact ⟨by omega, List.mem_append_left _ g2, by omega⟩
  · intro al best n s _ ⟨i1, i2, _, i4⟩
    obtain ⟨x, hx⟩ := List.exists_mem_of_ne_nil _ hl
    obtain ⟨_, g2, g3⟩ := i4 (List.ne_nil_of_mem (hperm.mem_iff.2 hx))
    have hv : al = rootValue G p depth := i2.trans (maxList_perm (hperm.map _) _)
    obtain ⟨hac, hst2⟩ := i1.check hu (by omega)
    simp only [rootSave, hac, Bool.false_eq_true, if_false]
    exact ⟨hst2, by rw [hv], best, rfl, hperm.mem_iff.1 g2, by rw [g3, hv]⟩

theorem iterate_spec (hoff : env.cacheOff = true) (p : P)
    (he : EvalBoundedFrom G p) (hl : legalMovesOf G p ≠ []) (maxDepth : Nat) (fuel d : Nat) (st : St M)
    (infos : List (InfoLine M)) (hf : 1 ≤ fuel) (hd : d + fuel = maxDepth + 1) (hst : Live 0 st) :
    IterOK G p maxDepth (iterate env G p maxDepth fuel d st infos).1 := by
  refine iterate_ind (Q := fun r => IterOK G p maxDepth r.1)
    (Inv := fun d' s _ => Live 0 s ∧ d' ≤ maxDepth + 1 ∧ (d < d' → IterOK G p (d' - 1) s))
    (fun d' s _ ⟨_, h2, h3⟩ hx => by
      have hd' : d' = maxDepth + 1 := by omega
      subst hd'
      exact h3 (by omega)) ?_ ⟨hst, by omega, fun h => absurd h (Nat.lt_irrefl _)⟩
  intro d' s _ c ⟨h1, _, _⟩ hmd hc
  have hA := abStart_spec hu hoff p he hl d' s h1
  obtain ⟨hac, hst2⟩ := hA.1.check hu (by omega)
  have hfr := abortCheck_frame env (abStart env G p d' s)
  subst hc
  exact ⟨fun h => (by rw [hac] at h; cases h),
    fun _ => ⟨hst2, by omega, fun _ => ⟨hst2, hfr.bestScore ▸ hA.2.1, hfr.bestMove ▸ hA.2.2⟩⟩⟩

end

end RCE.Proofs.SearchNegamax
