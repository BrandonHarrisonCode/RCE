import RCE.Proofs.SearchLoops
/-! Basic lemmas for C11: `maxList`, value ranges of the minimax spec, the contract between a search result and
    the minimax value (`Good`, the fail-hard contract `Bnd` of `SearchLoops` read for an exact value). -/
namespace RCE.Proofs.SearchNegamax
open RCE.Search RCE.Proofs.SearchDefs RCE.Proofs.SearchUnfold RCE.Proofs.SearchRules

variable {P M : Type} [DecidableEq M]
set_option linter.unusedSectionVars false

theorem satNeg_ge (x : Int) : -32768 ≤ satNeg x := by rw [satNeg_eq]; omega

/-- what a value `r` returned for the window `(a, b)` says about the true value `v`: above `a` it is a lower bound,
    below `b` an upper bound; so strictly inside it is exact, and for `a < b` at or above `b` a lower, at or below `a`
    an upper bound -/
def Good (v a b r : Int) : Prop := Bnd (· ≤ v) (v ≤ ·) a b r

theorem good_self (v a b : Int) : Good v a b v := .of_both (Int.le_refl _) (Int.le_refl _)

theorem maxList_nil (a : Int) : maxList a [] = a := rfl
theorem maxList_cons (a x : Int) (l : List Int) : maxList a (x :: l) = maxList (max a x) l := rfl

theorem maxList_perm {l l' : List Int} (h : List.Perm l l') : ∀ a, maxList a l = maxList a l' := by
  induction h with
  | nil => intro a; rfl
  | cons x _ ih => intro a; simp only [maxList_cons]; exact ih _
  | swap x y l =>
    intro a; simp only [maxList_cons]
    have : max (max a y) x = max (max a x) y := by omega
    rw [this]
  | trans _ _ ih1 ih2 => intro a; exact (ih1 a).trans (ih2 a)

theorem maxList_ge (l : List Int) : ∀ a, a ≤ maxList a l := by
  induction l with
  | nil => intro a; simp [maxList_nil]
  | cons x l ih => intro a; simp only [maxList_cons]; have := ih (max a x); omega

theorem maxList_max (l : List Int) : ∀ a b, maxList (max a b) l = max a (maxList b l) := by
  induction l with
  | nil => intro a b; rfl
  | cons x l ih =>
    intro a b; simp only [maxList_cons]
    have : max (max a b) x = max a (max b x) := by omega
    rw [this]; exact ih _ _

theorem maxList_concat (a x : Int) (l : List Int) : maxList a (l ++ [x]) = max (maxList a l) x := by
  simp [maxList, List.foldl_append]

theorem maxList_le (l : List Int) (c : Int) (hl : ∀ x ∈ l, x ≤ c) : ∀ a, a ≤ c → maxList a l ≤ c := by
  induction l with
  | nil => intro a h; simpa [maxList_nil] using h
  | cons x l ih =>
    intro a h; simp only [maxList_cons]
    have hx := hl x List.mem_cons_self
    exact ih (fun y hy => hl y (List.mem_cons_of_mem _ hy)) _ (by omega)

theorem maxList_ge_mem (l : List Int) : ∀ a, ∀ x ∈ l, x ≤ maxList a l := by
  induction l with
  | nil => intro a x hx; simp at hx
  | cons y l ih =>
    intro a x hx; simp only [maxList_cons]
    rcases List.mem_cons.1 hx with h | h
    · subst h; have := maxList_ge l (max a x); omega
    · exact ih _ x h

theorem maxList_range {l : List Int} {lo hi a : Int} (hl : ∀ x ∈ l, lo ≤ x ∧ x ≤ hi) (ha : a ≤ hi)
    (hne : l ≠ [] ∨ lo ≤ a) : lo ≤ maxList a l ∧ maxList a l ≤ hi := by
  refine ⟨?_, maxList_le l hi (fun x hx => (hl x hx).2) a ha⟩
  rcases hne with hne | hne
  · obtain ⟨x, hx⟩ := List.exists_mem_of_ne_nil _ hne
    exact Int.le_trans (hl x hx).1 (maxList_ge_mem l a x hx)
  · exact Int.le_trans hne (maxList_ge l a)

/-- in a window that strictly contains the value the result is the value -/
theorem Good.exact {v a b r : Int} (h : Good v a b r) (ha : a < v) (hb : v < b) : r = v := by
  unfold Good Bnd at h; omega

theorem Good.flip {v a b r : Int} (h : Good v (-b) (-a) r) : Good (-v) a b (-r) := by
  unfold Good Bnd at *; omega

theorem Good.below {x a b v : Int} (h : Good x a b v) (hv : v < b) : x ≤ v ∧ (a < v → x = v) := by
  unfold Good Bnd at h; omega

theorem good_step_root {x a r : Int} (hx : x ≤ 32767) (hr : r ≤ 32767) (hg : a ≠ 32767 → Good x a 32767 r) :
    max a r = max a x ∧ (a < r → x = r) := by
  by_cases ha : a = 32767
  · omega
  · have := hg ha
    unfold Good Bnd at this
    omega

theorem Good.raise {x a b r : Int} (hg : Good x a b r) (hlt : r < b) : max a r = max a x := by
  unfold Good Bnd at hg
  omega

theorem Good.cut {x a b r a0 : Int} {l : List Int} (hg : Good x a b r) (hab : a < b) (hcut : b ≤ r) (hx : x ∈ l) :
    b ≤ maxList a0 l := by
  have := maxList_ge_mem l a0 x hx
  unfold Good Bnd at hg
  omega

theorem nmQuiesce_range (G : Game P M) : ∀ (fuel : Nat) (p : P) (ply : Nat), EvalBoundedFrom G p →
    -32767 ≤ nmQuiesce G fuel p ply ∧ nmQuiesce G fuel p ply ≤ 32767
  | 0, p, ply, _ => by simp [nmQuiesce]
  | fuel + 1, p, ply, he => by
    simp only [nmQuiesce]
    split
    · omega
    · have hev := he p Reach.refl
      refine maxList_range (fun x hx => ?_) (by omega) (.inr (by omega))
      simp only [List.mem_map, List.mem_filter] at hx
      obtain ⟨m, ⟨hm, _⟩, rfl⟩ := hx
      have := nmQuiesce_range G fuel (G.play p m) (ply + 1) (evalBounded_step he (mem_legalMovesOf.1 hm).1)
      omega

/-- `negamax` one level unfolded, with the check extension named -/
theorem negamax_succ (G : Game P M) (fuel : Nat) (p : P) (depth ply : Nat) (dep : Nat)
    (hdep : dep = if G.inCheck p = true then depth + 1 else depth) :
    negamax G (fuel + 1) p depth ply =
      if ply = 255 then 0 else
      if (G.fifty p || G.repeated p) = true then 0 else
      if dep = 0 then nmQuiesce G (fuel + 1) p ply else
      if (legalMovesOf G p).isEmpty = true then (if G.inCheck p = true then MINS + ply else 0) else
      maxList MINS ((legalMovesOf G p).map fun m => - negamax G fuel (G.play p m) (dep - 1) (ply + 1)) := by
  subst hdep
  rw [negamax]
  cases legalMovesOf G p <;> simp

theorem negamax_range (G : Game P M) : ∀ (fuel : Nat) (p : P) (depth ply : Nat), EvalBoundedFrom G p →
    1 ≤ ply → ply ≤ 255 →
    -32767 ≤ negamax G fuel p depth ply ∧ negamax G fuel p depth ply ≤ 32767
  | 0, p, depth, ply, _, _, _ => by simp [negamax]
  | fuel + 1, p, depth, ply, he, h1, h2 => by
    rw [negamax_succ G fuel p depth ply _ rfl]
    generalize (if G.inCheck p = true then depth + 1 else depth) = dep
    by_cases hp : ply = 255
    · rw [if_pos hp]; omega
    rw [if_neg hp]
    by_cases hd : (G.fifty p || G.repeated p) = true
    · rw [if_pos hd]; omega
    rw [if_neg hd]
    by_cases h0 : dep = 0
    · rw [if_pos h0]; exact nmQuiesce_range G _ p ply he
    rw [if_neg h0]
    by_cases hne : (legalMovesOf G p).isEmpty = true
    · rw [if_pos hne]
      split
      · simp only [MINS]; omega
      · omega
    · rw [if_neg hne]
      refine maxList_range (fun x hx => ?_) (by unfold MINS; omega) (.inl fun h => hne (by simpa using h))
      obtain ⟨m, hm, rfl⟩ := List.mem_map.1 hx
      have := negamax_range G fuel (G.play p m) (dep - 1) (ply + 1)
        (evalBounded_step he (mem_legalMovesOf.1 hm).1) (by omega) (by omega)
      omega
end RCE.Proofs.SearchNegamax
