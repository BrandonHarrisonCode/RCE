import RCE.Proofs.SearchBest
import RCE.Proofs.SearchAbort
/-! C14 (addition): every reported `info` line of a root that has a legal move carries a score and a non-empty
    principal variation whose first move is a legal move of the root.

    An info line for depth `d` is the line of an iteration whose abort check did not fire (`iterate_lines`).
    `abStart` either ends in an interrupted state (the root loop was aborted, or the check before the save fired) —
    and under a monotone clock an interruption is sticky, so that check fires as well — or it completes and stores
    `⟨alpha, d, exact, best⟩` under the root key with `alpha` an `i16` value, `best` a legal root move (root-loop
    invariant `RootJ`) and `bestScore := some alpha`; `getPv` reads that entry at its first step (`d ≥ 1`).  So
    `infoLine` never takes its `.none` branch, and in the two mate bands the printed number `± ⌈pv.length / 2⌉` is
    non-zero because the PV is non-empty (namespace `SearchInfoScore`, at the end of this file). -/
namespace RCE.Proofs.SearchPvNonempty
open RCE.Search RCE.Proofs.SearchDefs RCE.Proofs.SearchUnfold RCE.Proofs.SearchBest RCE.Proofs.SearchAbort

variable {P M : Type} [DecidableEq M]
set_option linter.unusedSectionVars false

theorem rootAbort_interrupted {env : Env} {st : St M} (alpha : Int) (best : M) (h : Interrupted env st) :
    Interrupted env (rootAbort alpha best st) := by
  unfold rootAbort
  exact ite_pred (Interrupted env) h h

/-- what one root search leaves unless it was interrupted: an entry for the root whose move is legal and whose score is the reported one -/
def StartPost (env : Env) (G : Game P M) (root : P) (S : St M) : Prop :=
  Interrupted env S ∨
    ∃ e, S.tt[G.key root]? = some e ∧ e.best ∈ legalMovesOf G root ∧ S.bestScore = some e.score ∧ InR e.score

theorem abStart_post (env : Env) {G : Game P M} {root : P} (he : EvalBoundedFrom G root)
    (hl : legalMovesOf G root ≠ []) (depth : Nat) {st : St M} (h : RootInv G root st) :
    StartPost env G root (abStart env G root depth st) := by
  refine abStart_ind_ne (Inv := fun _ => RootL G root) hl (rootL_init h) ?_ ?_
  · intro _ m _ al best pvs n s r c _ hm hs hr hcc
    have h' := rootStep_B env he hs.1 hs.2.1 hs.2.2 hm hr hcc
    subst hcc
    refine ⟨fun hfire => .inl (rootAbort_interrupted _ _ (abortCheck_interrupts' env _ ?_ hfire)), fun _ => h'⟩
    rw [← (abortCheck_frame env _).ply, h'.1.ply]
    omega
  · intro al best n s hn hs
    unfold rootSave
    split
    · rename_i hfire
      exact .inl (abortCheck_interrupts' env s (by rw [hs.1.ply]; omega) hfire)
    · exact .inr ⟨⟨al, depth, .exact, best⟩, Std.HashMap.getElem?_insert_self,
        (hs.2.2.resolve_left fun h0 => hn h0.1).2, rfl, hs.2.1⟩

def scoreOf (s : Int) (len : Nat) : ScoreOut :=
  if s ≤ MINS + 255 + 1 then .mate (-(((len + 1) / 2 : Nat) : Int))
  else if s ≥ MAXS - 255 then .mate (((len + 1) / 2 : Nat) : Int) else .cp s

theorem info_score_shape (env : Env) (G : Game P M) (p : P) (maxDepth : Option Nat) (tt0 : Table M)
    (hc : MonoClock env) (hl : legalMovesOf G p ≠ []) (he : EvalBoundedFrom G p) (ht : TableScoresOK tt0) :
    ∀ i ∈ (search env G p maxDepth tt0).infos,
      (∃ s, (MINS ≤ s ∧ s ≤ MAXS) ∧ i.score = scoreOf s i.pv.length) ∧
      ∃ m rest, i.pv = m :: rest ∧ m ∈ legalMovesOf G p := by
  intro i hi
  obtain ⟨d, s, hd, hs, hab, rfl⟩ :=
    (iterate_B env he (maxDepth.getD 255) (maxDepth.getD 255) (rootInv_init G p ht)).2 i hi
  have hf := abortCheck_frame env (abStart env G p d s)
  rcases abStart_post env he hl d hs with hint | ⟨e, hE, hbest, hbs, hr⟩
  · rw [abortCheck_of_interrupted env _ hc hint] at hab; cases hab
  · obtain ⟨d', rfl⟩ : ∃ d', d = d' + 1 := ⟨d - 1, by omega⟩
    have hpv : getPv G (abortCheck env (abStart env G p (d' + 1) s)).2.tt (d' + 1) p =
        e.best :: getPv G (abortCheck env (abStart env G p (d' + 1) s)).2.tt d' (G.play p e.best) := by
      simp only [getPv]
      rw [hf.tt, hE]
      simp only [(mem_legalMovesOf.1 hbest).2, if_true]
    refine ⟨⟨e.score, hr, ?_⟩, e.best, _, hpv, hbest⟩
    simp only [lineOf, infoLine, hf.bestScore, hbs, scoreOf]

end RCE.Proofs.SearchPvNonempty

namespace RCE.Proofs.SearchInfoScore
open RCE.Search RCE.Proofs.SearchDefs RCE.Proofs.SearchUnfold RCE.Proofs.SearchBest RCE.Proofs.SearchAbort
  RCE.Proofs.SearchPvNonempty

variable {P M : Type} [DecidableEq M]
set_option linter.unusedSectionVars false

theorem info_score_present (env : Env) (G : Game P M) (p : P) (maxDepth : Option Nat) (tt0 : Table M)
    (hc : MonoClock env) (hl : legalMovesOf G p ≠ []) (he : EvalBoundedFrom G p) (ht : TableScoresOK tt0) :
    ∀ i ∈ (search env G p maxDepth tt0).infos,
      (∃ s, i.score = .cp s ∧ MINS + 255 + 1 < s ∧ s < MAXS - 255) ∨
      (∃ n : Int, i.score = .mate n ∧ n ≠ 0 ∧ n.natAbs = (i.pv.length + 1) / 2 ∧ 1 ≤ n.natAbs ∧
        (n = -(((i.pv.length + 1) / 2 : Nat) : Int) ∨ n = (((i.pv.length + 1) / 2 : Nat) : Int))) := by
  intro i hi
  obtain ⟨⟨s, _, hs⟩, m, rest, hpv, _⟩ := info_score_shape env G p maxDepth tt0 hc hl he ht i hi
  have hlen : 1 ≤ (i.pv.length + 1) / 2 := by
    rw [hpv, List.length_cons]; omega
  rw [hs]
  unfold scoreOf
  split
  · exact .inr ⟨_, rfl, by omega, by omega, by omega, .inl rfl⟩
  · split
    · exact .inr ⟨_, rfl, by omega, by omega, by omega, .inr rfl⟩
    · exact .inl ⟨s, rfl, by omega, by omega⟩

theorem info_score_ne_none (env : Env) (G : Game P M) (p : P) (maxDepth : Option Nat) (tt0 : Table M)
    (hc : MonoClock env) (hl : legalMovesOf G p ≠ []) (he : EvalBoundedFrom G p) (ht : TableScoresOK tt0) :
    ∀ i ∈ (search env G p maxDepth tt0).infos, i.score ≠ .none := by
  intro i hi
  rcases info_score_present env G p maxDepth tt0 hc hl he ht i hi with ⟨s, h, _⟩ | ⟨n, h, _⟩ <;>
    (rw [h]; intro hh; cases hh)

end RCE.Proofs.SearchInfoScore

#print axioms RCE.Proofs.SearchInfoScore.info_score_present
