import RCE.Proofs.SearchAbort
import RCE.Proofs.SearchBest
/-! Rules for reasoning about the routines of the search without unfolding them: the cache probe characterised and
    read as a bound (`EntryBnd`); how what a fail-hard value says about a node (`Bnd`, with `pvsChild_neg`, at the end of
    `SearchLoops`) passes through a move with its abort check (`pvsMove_bnd`) and through the two move loops, which end
    with the maximum of their children's bounds (`abKids_bnd`, `abStart_bnd`); and the iterations with their
    interruptions (`iterate_rule`). -/
namespace RCE.Proofs.SearchRules
open RCE.Search RCE.Proofs.SearchDefs RCE.Proofs.SearchUnfold RCE.Proofs.SearchAbort
open RCE.Proofs.SearchBest (Keep keep_of_frame keep_across)

variable {P M : Type} [DecidableEq M]
set_option linter.unusedSectionVars false

/-- The probe by the entry it finds.  Without an entry that is deep enough the window stays as it is.  Otherwise the
    entry answers (it is exact, or a bound that leaves no window) or tightens the window at one end. -/
theorem probe_cases {tt : Table M} {k : UInt64} {d : Nat} {a0 b0 : Int} {r : Int ⊕ (Int × Int)}
    (h : probe tt k d a0 b0 = r) :
    r = .inr (a0, b0) ∨ ∃ e, tt[k]? = some e ∧ d ≤ e.depth ∧
      (r = .inl e.score ∧
        (e.bound = .exact ∨ (e.bound = .lower ∧ b0 ≤ max a0 e.score) ∨ (e.bound = .upper ∧ min b0 e.score ≤ a0)) ∨
       r = .inr (max a0 e.score, b0) ∧ e.bound = .lower ∧ max a0 e.score < b0 ∨
       r = .inr (a0, min b0 e.score) ∧ e.bound = .upper ∧ a0 < min b0 e.score) := by
  subst h
  unfold probe
  cases he : tt[k]? with
  | none => exact .inl rfl
  | some e =>
    dsimp only
    by_cases hd : d ≤ e.depth
    · rw [if_pos hd]
      refine .inr ⟨e, rfl, hd, ?_⟩
      cases hb : e.bound with
      | exact => exact .inl ⟨rfl, .inl rfl⟩
      | lower =>
        dsimp only
        by_cases h : b0 ≤ max a0 e.score
        · rw [if_pos h]; exact .inl ⟨rfl, .inr (.inl ⟨rfl, h⟩)⟩
        · rw [if_neg h]; exact .inr (.inl ⟨rfl, rfl, by omega⟩)
      | upper =>
        dsimp only
        by_cases h : min b0 e.score ≤ a0
        · rw [if_pos h]; exact .inl ⟨rfl, .inr (.inr ⟨rfl, h⟩)⟩
        · rw [if_neg h]; exact .inr (.inr ⟨rfl, rfl, by omega⟩)
    · rw [if_neg hd]; exact .inl rfl

/-- an immediate answer is the score of an entry that is deep enough: exact, or a bound outside the window -/
theorem probe_eq_inl {tt : Table M} {k : UInt64} {d : Nat} {a0 b0 s : Int} (hab : a0 < b0)
    (h : probe tt k d a0 b0 = .inl s) :
    ∃ e, tt[k]? = some e ∧ d ≤ e.depth ∧ s = e.score ∧
      (e.bound = .exact ∨ (e.bound = .lower ∧ b0 ≤ s) ∨ (e.bound = .upper ∧ s ≤ a0)) := by
  rcases probe_cases h with h' | ⟨e, he, hd, ⟨h', hb⟩ | ⟨h', _⟩ | ⟨h', _⟩⟩ <;> cases h'
  exact ⟨e, he, hd, rfl, hb.imp_right (Or.imp (And.imp_right fun g => by omega) (And.imp_right fun g => by omega))⟩

theorem probe_of_exact {tt : Table M} {k : UInt64} {e : Entry M} (he : tt[k]? = some e) (hb : e.bound = .exact) {d : Nat}
    (hd : d ≤ e.depth) (a b : Int) : probe tt k d a b = .inl e.score := by
  unfold probe
  rw [he]
  dsimp only
  rw [if_pos hd, hb]

/-- an entry read by the probe as a claim about the node -/
def EntryBnd (A B : Int → Prop) (e : Entry M) : Prop :=
  (e.bound ≠ .upper → A e.score) ∧ (e.bound ≠ .lower → B e.score)

theorem bound_of_ne_upper {b : Bound} (h : b ≠ .upper) : b = .exact ∨ b = .lower := by cases b <;> simp at h ⊢

theorem bound_of_ne_lower {b : Bound} (h : b ≠ .lower) : b = .exact ∨ b = .upper := by cases b <;> simp at h ⊢

/-- what `probe_inr_bnd` asks of an entry -/
theorem EntryBnd.bounds {A B : Int → Prop} {e : Entry M} (h : EntryBnd A B e) :
    (e.bound = .lower → A e.score) ∧ (e.bound = .upper → B e.score) :=
  ⟨fun hb => h.1 (by rw [hb]; simp), fun hb => h.2 (by rw [hb]; simp)⟩

theorem probe_inl_bnd {A B : Int → Prop} {tt : Table M} {k : UInt64} {d : Nat} {a0 b0 s : Int} (hab : a0 < b0)
    (he : ∀ e, tt[k]? = some e → d ≤ e.depth → EntryBnd A B e) (h : probe tt k d a0 b0 = .inl s) : Bnd A B a0 b0 s := by
  obtain ⟨e, h1, h2, rfl, h4⟩ := probe_eq_inl hab h
  have := he e h1 h2
  rcases h4 with hb | ⟨hb, h5⟩ | ⟨hb, h5⟩
  · exact ⟨fun _ => this.1 (by rw [hb]; simp), fun _ => this.2 (by rw [hb]; simp)⟩
  · exact ⟨fun _ => this.1 (by rw [hb]; simp), fun g => by omega⟩
  · exact ⟨fun g => by omega, fun _ => this.2 (by rw [hb]; simp)⟩

theorem probe_inr_bnd {A B : Int → Prop} {tt : Table M} {k : UInt64} {d : Nat} {a0 b0 a b : Int} (hab : a0 < b0)
    (he : ∀ e, tt[k]? = some e → d ≤ e.depth → (e.bound = .lower → A e.score) ∧ (e.bound = .upper → B e.score))
    (h : probe tt k d a0 b0 = .inr (a, b)) :
    a0 ≤ a ∧ b ≤ b0 ∧ a < b ∧ (a0 < a → A a) ∧ (b < b0 → B b) := by
  rcases probe_cases h with h' | ⟨e, h1, h2, ⟨h', _⟩ | ⟨h', hb, h3⟩ | ⟨h', hb, h3⟩⟩ <;> cases h'
  · exact ⟨Int.le_refl _, Int.le_refl _, hab, fun g => absurd g (Int.lt_irrefl _), fun g => absurd g (Int.lt_irrefl _)⟩
  · exact ⟨Int.le_max_left _ _, Int.le_refl _, h3, fun g => by rw [Int.max_eq_right (by omega)]; exact (he e h1 h2).1 hb,
      fun g => absurd g (Int.lt_irrefl _)⟩
  · exact ⟨Int.le_refl _, Int.min_le_left _ _, h3, fun g => absurd g (Int.lt_irrefl _),
      fun g => by rw [Int.min_eq_right (by omega)]; exact (he e h1 h2).2 hb⟩

/-! ### a move, and the loops as a maximum of bounds

A child search may be cut short (`Stop` of the state it leaves: then the abort check after the move fires); otherwise
its value `r` satisfies `Bnd A B` for its window: `A r` if `r` is a lower bound for the child, `B r` if it is an upper
bound.  `I` is an invariant of the cache.  The loops do not read `A` and `B`: what the bounds of its children say
about a node is left to the client. -/

theorem pvsMove_bnd {env : Env} {G : Game P M} {rec : P → Int → Int → Nat → St M → Int × St M} {p : P} {m : M} {a b : Int}
    {depth : Nat} {pvs upd : Bool} {st : St M} {Stop : St M → Prop} (hstop : ∀ s, Stop s → (abortCheck env (leave s)).1 = true)
    {I : Table M → Prop} {A B : Int → Prop} (ha : -32768 ≤ a) (hab : a < b) (hb : b ≤ 32767) (hb' : -32767 < b) (hI : I st.tt)
    (hrec : ∀ x y s, -32767 ≤ x → x < y → y ≤ 32767 → s.ply = st.ply + 1 → I s.tt →
      (rec (G.play p m) x y (depth - 1) s).2.ply = st.ply + 1 ∧ I (rec (G.play p m) x y (depth - 1) s).2.tt ∧
      Rng (rec (G.play p m) x y (depth - 1) s).1 ∧
      (Stop (rec (G.play p m) x y (depth - 1) s).2 ∨ Bnd A B x y (rec (G.play p m) x y (depth - 1) s).1))
    {r : Int × St M} (hr : r = pvsChild G rec p m a b depth pvs upd st) {c : Bool × St M} (hc : c = abortCheck env r.2) :
    r.2.ply = st.ply ∧ c.2.ply = st.ply ∧ I c.2.tt ∧ Rng r.1 ∧
    (c.1 = false → Bnd (fun v => B (-v)) (fun v => A (-v)) a b r.1) := by
  obtain ⟨s1, r', ⟨hs1, hs2⟩, hrng, heq, h⟩ := pvsChild_neg (G := G) (rec := rec) (p := p) (m := m) (depth := depth)
    (pvs := pvs) (upd := upd) (st := st) (S := fun s' => s'.ply = st.ply + 1 ∧ I s'.tt) (T := Rng)
    (A := fun s' v => Stop s' ∨ A v) (B := fun s' v => Stop s' ∨ B v) ha hab hb hb' ⟨rfl, hI⟩ (fun _ => satNeg_rng)
    (fun x y s' _ hx hxy hy hs' e => by
      subst e
      obtain ⟨h1, h2, h3, h4⟩ := hrec x y s' hx hxy hy hs'.1 hs'.2
      exact ⟨⟨h1, h2⟩, h3, fun e => absurd e (Int.ne_of_lt h3.2), fun g => h4.imp_right fun h => h.1 g,
        fun g => h4.imp_right fun h => h.2 g⟩)
  rw [← hr] at heq
  subst heq
  have hf := abortCheck_frame env (leave s1)
  rw [← hc] at hf
  have hp : (leave s1).ply = st.ply := by show s1.ply - 1 = st.ply; omega
  refine ⟨hp, hf.ply.trans hp, by rw [hf.tt]; exact hs2, rng_neg hrng, fun hab' => ?_⟩
  -- the check passed: the child search was not cut short
  have hns : ¬ Stop s1 := fun hs => by
    have := hstop s1 hs; rw [← hc, hab'] at this; cases this
  exact ⟨fun g => (h.1 g).resolve_left hns, fun g => (h.2 g).resolve_left hns⟩

/-- One more move `m` in the running maximum of a move loop that started with alpha at `a`: so far every child is
    bounded below by `−al`, and the child of `bst` above if alpha was raised; the value `r` of `m` is below beta. -/
theorem bnd_max {A B : M → Int → Prop} (hanti : ∀ m v w, A m w → v ≤ w → A m v) {L done : List M} {m bst : M}
    {a al b r : Int} (hm : m ∈ L) (h : Bnd (fun v => B m (-v)) (fun v => A m (-v)) al b r) (hlt : r < b)
    (hbest : a < al → bst ∈ L ∧ B bst (-al)) (hall : ∀ x ∈ done, A x (-al)) :
    (a < max al r → (if al < r then m else bst) ∈ L ∧ B (if al < r then m else bst) (-(max al r))) ∧
    ∀ x ∈ done ++ [m], A x (-(max al r)) := by
  refine ⟨fun g => ?_, fun x hx => ?_⟩
  · by_cases g' : al < r
    · rw [Int.max_eq_right (by omega), if_pos g']; exact ⟨hm, h.1 g'⟩
    · rw [Int.max_eq_left (by omega), if_neg g']; exact hbest (by omega)
  · rcases List.mem_append.1 hx with hx | hx
    · exact hanti x _ _ (hall x hx) (by omega)
    · rw [List.mem_singleton.1 hx]; exact hanti m _ _ (h.2 hlt) (by omega)

/-- What the loop of the node `p` at ply `k`, window `(a, b)`, started with the count `n`, leaves behind.  It was
    aborted by the check made in `s`.  Or it cut: some child is bounded above by `−r`, `r ≥ b` the value stored.  Or it
    ended: every child is bounded below by `−al`, and the child of the best move above if alpha was raised. -/
def KidsBnd (env : Env) (G : Game P M) (p : P) (depth k : Nat) (I : Table M → Prop) (A B : M → Int → Prop) (a b : Int)
    (n : Nat) : Loop M → Prop
  | .abort st' => st'.ply = k ∧ I st'.tt ∧ ∃ s, s.ply = k ∧ (abortCheck env s).1 = true ∧ st' = (abortCheck env s).2
  | .cut st' => ∃ (m : M) (r : Int) (c : St M), m ∈ legalMovesOf G p ∧ b ≤ r ∧ Rng r ∧ B m (-r) ∧ c.ply = k ∧ I c.tt ∧
      st' = storeKillers G m (c.insert (G.key p) ⟨r, depth, .lower, m⟩ 2)
  | .done al best n' st' => (n' = n ↔ legalMovesOf G p = []) ∧ st'.ply = k ∧ I st'.tt ∧ a ≤ al ∧ al < b ∧
      (legalMovesOf G p ≠ [] → -32767 < al) ∧
      (a < al → best ∈ legalMovesOf G p ∧ B best (-al)) ∧ ∀ m ∈ legalMovesOf G p, A m (-al)

theorem abKids_bnd {env : Env} {G : Game P M} {rec : P → Int → Int → Nat → St M → Int × St M} {p : P} {depth k : Nat}
    {Stop : St M → Prop} (hstop : ∀ s, Stop s → (abortCheck env (leave s)).1 = true)
    {I : Table M → Prop} {A B : M → Int → Prop} (hanti : ∀ m v w, A m w → v ≤ w → A m v)
    (hrec : ∀ m ∈ legalMovesOf G p, ∀ x y s, -32767 ≤ x → x < y → y ≤ 32767 → s.ply = k + 1 → I s.tt →
      (rec (G.play p m) x y (depth - 1) s).2.ply = k + 1 ∧ I (rec (G.play p m) x y (depth - 1) s).2.tt ∧
      Rng (rec (G.play p m) x y (depth - 1) s).1 ∧
      (Stop (rec (G.play p m) x y (depth - 1) s).2 ∨ Bnd (A m) (B m) x y (rec (G.play p m) x y (depth - 1) s).1))
    (ks : List M) (a b : Int) (best : M) (pvs : Bool) (n : Nat) (st : St M)
    (hsub : ∀ m ∈ ks, m ∈ G.allMoves p) (hall : ∀ m ∈ legalMovesOf G p, m ∈ ks)
    (ha : -32767 ≤ a) (hab : a < b) (hb : b ≤ 32767) (hply : st.ply = k) (hI : I st.tt) :
    KidsBnd env G p depth k I A B a b n (abKids env G rec p depth ks a b best pvs n st) := by
  -- the moves searched are the legal moves
  have hmem : ∀ m, m ∈ ks.filter (G.legal p) ↔ m ∈ legalMovesOf G p := fun m => by
    rw [List.mem_filter, mem_legalMovesOf]
    exact ⟨fun h => ⟨hsub m h.1, h.2⟩, fun h => ⟨hall m (mem_legalMovesOf.2 h), h.2⟩⟩
  have hnil : ks.filter (G.legal p) = [] ↔ legalMovesOf G p = [] := by
    simp only [List.eq_nil_iff_forall_not_mem, hmem]
  rw [abKids_filter]
  refine abKids_ind (Post := KidsBnd env G p depth k I A B a b n)
    (Inv := fun done al bst n' s => n' = n + done.length ∧ s.ply = k ∧ I s.tt ∧ a ≤ al ∧ al < b ∧ (done ≠ [] → -32767 < al) ∧
      (a < al → bst ∈ legalMovesOf G p ∧ B bst (-al)) ∧ ∀ m ∈ done, A m (-al))
    (fun m => (hmem m).1) ?_ ⟨rfl, hply, hI, Int.le_refl _, hab, fun h => absurd rfl h, fun h => absurd h (Int.lt_irrefl _),
      fun _ h => absurd h List.not_mem_nil⟩
    (fun al bst n' s ⟨ic, i1, i2, i3, i4, i0, i5, i6⟩ =>
      ⟨⟨fun h => hnil.1 (List.eq_nil_of_length_eq_zero (by omega)), fun h => by rw [ic, hnil.2 h]; rfl⟩, i1, i2, i3, i4,
        fun h => i0 fun h0 => h (hnil.1 h0), i5, fun m hm => i6 m ((hmem m).2 hm)⟩)
  intro done m rest al bst pvs n' s r c _ hm ⟨ic, i1, i2, i3, i4, i0, i5, i6⟩ hr hc
  subst i1
  obtain ⟨hp, hply', hI', hrng, h⟩ := pvsMove_bnd hstop (by omega) i4 hb (by omega) i2 (hrec m hm) hr hc
  unfold Rng at hrng
  refine ⟨fun hab' => ⟨hply', hI', r.2, hp, hc ▸ hab', by rw [hc]⟩,
    fun hab' hcut => ⟨m, r.1, c.2, hm, hcut, hrng, (h hab').1 (by omega), hply', hI', rfl⟩, fun hab' hlt => ?_⟩
  obtain ⟨h5, h6⟩ := bnd_max hanti hm (h hab') hlt i5 i6
  exact ⟨by rw [ic, List.length_append, List.length_singleton]; omega, hply', hI', by omega, by omega, fun _ => by omega, h5, h6⟩

/-- What an iteration leaves, in a position with a legal move.  It was cut short by the abort check made in the state
    `s`, after a move or before the save: the reported move is the old one, or the best move of the loop so far with a
    larger score `al`.  Or it was completed: every move's child is bounded below by `−al`, the child of the best move
    above, and the root's entry is saved in the state `c`. -/
def StartBnd (env : Env) (G : Game P M) (p : P) (depth : Nat) (I : Table M → Prop) (A B : M → Int → Prop) (st st' : St M) :
    Prop :=
  (∃ (al : Int) (best : M) (s : St M), s.ply = 0 ∧ I s.tt ∧ Keep st s ∧ (abortCheck env s).1 = true ∧
      (MINS < al → best ∈ legalMovesOf G p ∧ B best (-al)) ∧
      (st' = (abortCheck env s).2 ∨ ∃ s0, (abortCheck env s).2.bestScore = some s0 ∧ s0 < al ∧
        st' = { (abortCheck env s).2 with bestScore := some al, bestMove := some best })) ∨
  (∃ (al : Int) (best : M) (c : St M), c.ply = 0 ∧ I c.tt ∧ Keep st c ∧ Rng al ∧ best ∈ legalMovesOf G p ∧ B best (-al) ∧
      (∀ m ∈ legalMovesOf G p, A m (-al)) ∧
      st' = { c.insert (G.key p) ⟨al, depth, .exact, best⟩ 1 with bestScore := some al, bestMove := some best })

theorem abStart_bnd {env : Env} {G : Game P M} {p : P} {depth : Nat} {st : St M} (hne : legalMovesOf G p ≠ [])
    {Stop : St M → Prop} (hstop : ∀ s, Stop s → (abortCheck env (leave s)).1 = true)
    {I : Table M → Prop} {A B : M → Int → Prop} (hanti : ∀ m v w, A m w → v ≤ w → A m v)
    (hrec : ∀ m ∈ legalMovesOf G p, ∀ x y s, -32767 ≤ x → x < y → y ≤ 32767 → s.ply = 0 + 1 → I s.tt →
      (ab env G 255 (G.play p m) x y (depth - 1) s).2.ply = 0 + 1 ∧ I (ab env G 255 (G.play p m) x y (depth - 1) s).2.tt ∧
      Rng (ab env G 255 (G.play p m) x y (depth - 1) s).1 ∧
      (Stop (ab env G 255 (G.play p m) x y (depth - 1) s).2 ∨
        Bnd (A m) (B m) x y (ab env G 255 (G.play p m) x y (depth - 1) s).1))
    (hply : st.ply = 0) (hI : I st.tt) : StartBnd env G p depth I A B st (abStart env G p depth st) := by
  refine abStart_ind_ne (Q := StartBnd env G p depth I A B st)
    (Inv := fun done al bst _ s => s.ply = 0 ∧ I s.tt ∧ Keep st s ∧ -32768 ≤ al ∧ al < 32767 ∧ (done ≠ [] → -32767 < al) ∧
      (MINS < al → bst ∈ legalMovesOf G p ∧ B bst (-al)) ∧ ∀ m ∈ done, A m (-al))
    hne (fun _ => ⟨hply, hI, ⟨rfl, rfl, rfl⟩, by decide, by decide, fun h => absurd rfl h, fun h => absurd h (Int.lt_irrefl _),
      fun _ h => absurd h List.not_mem_nil⟩) ?_ ?_
  · intro done m rest al bst pvs n s r c _ hm ⟨i1, i2, i3, i4, i5, i0, i6, i7⟩ hr hc
    obtain ⟨_, hply', hI', hrng, h⟩ := pvsMove_bnd hstop i4 i5 (Int.le_refl _) (by decide) i2
      (fun x y s' hx hxy hy hs' => by rw [i1] at hs' ⊢; exact hrec m hm x y s' hx hxy hy hs') hr hc
    have hk := (keep_across env G).pvsChild ((keep_across env G).ab 255) G p m al MAXS depth pvs false s
    rw [← hr] at hk
    unfold Rng at hrng
    refine ⟨fun hab => .inl ⟨al, bst, r.2, hk.ply.trans i1, ?_, i3.trans hk, hc ▸ hab, i6, ?_⟩,
      fun hab => ?_⟩
    · rw [← (abortCheck_frame env r.2).tt, ← hc]; exact hI'
    · rw [← hc]
      rcases rootAbort_cases al bst c.2 with h' | ⟨s0, h1, h2, h'⟩ <;> rw [h']
      · exact .inl rfl
      · exact .inr ⟨s0, h1, h2, rfl⟩
    · obtain ⟨h6, h7⟩ := bnd_max hanti hm (h hab) (show r.1 < 32767 by omega) i6 i7
      exact ⟨hply'.trans i1, hI', i3.trans (hk.trans (keep_of_frame (hc ▸ abortCheck_frame env r.2))), by omega, by omega,
        fun _ => by omega, h6, h7⟩
  · intro al bst n s hn ⟨i1, i2, i3, i4, i5, i0, i6, i7⟩
    have hlo : -32767 < al := i0 fun h0 => hne (h0 ▸ (ordered_legal_perm G p _ _).symm).eq_nil
    unfold rootSave
    split
    · exact .inl ⟨al, bst, s, i1, i2, i3, ‹_›, i6, .inl rfl⟩
    · have hf := abortCheck_frame env s
      exact .inr ⟨al, bst, (abortCheck env s).2, hf.ply.trans i1, hf.tt ▸ i2, i3.trans (keep_of_frame hf), ⟨hlo, i5⟩,
        (i6 (by simp only [MINS]; omega)).1, (i6 (by simp only [MINS]; omega)).2,
        fun m hm => i7 m ((ordered_legal_perm G p _ _).mem_iff.2 hm), rfl⟩

/-- The iterations with their interruptions.  `Pre d st`: the state in which the iteration of depth `d` may start;
    `Fin d st`: what is wanted of the final state when the iterations below `d` have run and that of depth `d` was not
    completed.  An iteration is interrupted (then the abort check after it fires and `iterate` returns) or establishes
    `Pre (d + 1)`.  The info lines added are of depths from the start up to, but excluding, the final `d`. -/
theorem iterate_rule {env : Env} (hc : MonoClock env) {G : Game P M} {p : P} {md : Nat} {Pre Fin : Nat → St M → Prop}
    (hPF : ∀ d st, Pre d st → Fin d st)
    (hfr : ∀ d st st', Frame st st' → (Pre d st → Pre d st') ∧ (Fin d st → Fin d st'))
    (hstep : ∀ d st, Pre d st → (Interrupted env (abStart env G p d st) ∧ Fin d (abStart env G p d st)) ∨
      Pre (d + 1) (abStart env G p d st))
    (fuel d : Nat) (st : St M) (infos : List (InfoLine M)) (h : Pre d st) :
    ∃ d', d ≤ d' ∧ Fin d' (iterate env G p md fuel d st infos).1 ∧
      ∀ i ∈ (iterate env G p md fuel d st infos).2, i ∈ infos ∨ (d ≤ i.depth ∧ i.depth < d') := by
  refine iterate_ind (Inv := fun d' st' infos' => d ≤ d' ∧ Pre d' st' ∧ ∀ i ∈ infos', i ∈ infos ∨ (d ≤ i.depth ∧ i.depth < d'))
    (Q := fun r => ∃ d', d ≤ d' ∧ Fin d' r.1 ∧ ∀ i ∈ r.2, i ∈ infos ∨ (d ≤ i.depth ∧ i.depth < d'))
    (fun d' st' infos' ⟨h1, h2, h3⟩ _ => ⟨d', h1, hPF _ _ h2, h3⟩) ?_ ⟨Nat.le_refl _, h, fun i hi => .inl hi⟩
  intro d' st' infos' c ⟨h1, h2, h3⟩ _ hcc
  have hf := abortCheck_frame env (abStart env G p d' st')
  rw [← hcc] at hf
  rcases hstep d' st' h2 with ⟨hI, g⟩ | g
  · have := abortCheck_of_interrupted env _ hc hI
    rw [← hcc] at this
    exact ⟨fun _ => ⟨d', h1, (hfr _ _ _ hf).2 g, h3⟩, fun h => by rw [this] at h; cases h⟩
  · refine ⟨fun _ => ⟨d' + 1, by omega, hPF _ _ ((hfr _ _ _ hf).1 g), fun i hi => (h3 i hi).imp_right fun h => ⟨h.1, by omega⟩⟩,
      fun _ => ⟨by omega, (hfr _ _ _ hf).1 g, fun i hi => ?_⟩⟩
    rcases List.mem_append.1 hi with hi | hi
    · exact (h3 i hi).imp_right fun h => ⟨h.1, by omega⟩
    · rw [List.mem_singleton.1 hi]; exact .inr ⟨h1, Nat.lt_succ_self _⟩

end RCE.Proofs.SearchRules
