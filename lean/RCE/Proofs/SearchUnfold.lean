import RCE.Proofs.SearchDefs
/-! The search model (`Model/SearchCore.lean`) as the proofs see it: one equation per routine, in projection
    form; what each primitive step (`abortCheck`, entering and leaving a child, `probeSt`, `St.insert`,
    `storeKillers`) does to the state; the move ordering as a permutation; saturating negation. -/
namespace RCE.Proofs.SearchUnfold
open RCE.Search RCE.Proofs.SearchDefs

variable {P M : Type} [DecidableEq M]
set_option linter.unusedSectionVars false

theorem ite_pred {α : Sort _} {c : Prop} [Decidable c] {a b : α} (Q : α → Prop) (ha : Q a) (hb : Q b) :
    Q (if c then a else b) := by
  split
  · exact ha
  · exact hb

/-- `satNeg` as a clamp: every fact about it is linear arithmetic from here -/
theorem satNeg_eq (x : Int) : satNeg x = max (-32768) (min 32767 (-x)) := by
  unfold satNeg satI16 MAXS MINS
  split
  · omega
  · split <;> omega

def InR (x : Int) : Prop := MINS ≤ x ∧ x ≤ MAXS

theorem inR_iff {x : Int} : InR x ↔ -32768 ≤ x ∧ x ≤ 32767 := Iff.rfl

theorem satNeg_inR (x : Int) : InR (satNeg x) := by
  rw [inR_iff, satNeg_eq]; omega

theorem inR_max {a b : Int} (ha : InR a) (hb : InR b) : InR (max a b) := by
  rw [inR_iff] at *; omega

theorem mem_legalMovesOf {G : Game P M} {p : P} {m : M} :
    m ∈ legalMovesOf G p ↔ m ∈ G.allMoves p ∧ G.legal p m = true := List.mem_filter

theorem reach_trans {G : Game P M} {p q r : P} (h1 : Reach G p q) (h2 : Reach G q r) : Reach G p r := by
  induction h2 with
  | refl => exact h1
  | step _ hm ih => exact Reach.step ih hm

theorem evalBounded_step {G : Game P M} {p : P} (h : EvalBoundedFrom G p) {m : M} (hm : m ∈ G.allMoves p) :
    EvalBoundedFrom G (G.play p m) :=
  fun q hq => h q (reach_trans (Reach.step Reach.refl hm) hq)

theorem perm_set_swap {α : Type} (h x : α) : ∀ (t : List α) (i : Nat), t[i]? = some x →
    List.Perm (x :: t.set i h) (h :: t)
  | [], i, hx => by simp at hx
  | y :: t, 0, hx => by
    simp at hx; subst hx
    simpa using List.Perm.swap h y t
  | y :: t, i + 1, hx => by
    simp at hx
    have ih := perm_set_swap h x t i hx
    simp only [List.set_cons_succ]
    exact (List.Perm.swap y x _).trans (((ih.cons y)).trans (List.Perm.swap h y t))

theorem orderAux_perm : ∀ (n : Nat) (l : List (M × Nat)), l.length = n →
    List.Perm (orderAux n l) (l.map Prod.fst)
  | 0, l, h => by
    have : l = [] := List.eq_nil_of_length_eq_zero h
    subst this; simp [orderAux]
  | n + 1, [], h => by simp at h
  | n + 1, hd :: t, h => by
    have ht : t.length = n := by simpa using h
    simp only [orderAux]
    split
    · simpa using (orderAux_perm n t ht)
    · split
      · rename_i x hx
        have ih := orderAux_perm n (t.set (firstMaxIdx (hd :: t) - 1) hd) (by simpa using ht)
        have hp := perm_set_swap hd x t _ hx
        have := (ih.cons x.1).trans (by simpa using hp.map Prod.fst)
        simpa using this
      · simpa using (orderAux_perm n t ht)

theorem orderMoves_perm (G : Game P M) (ttMove : Option M) (k : Option M × Option M) (ms : List M) :
    List.Perm (orderMoves G ttMove k ms) ms := by
  unfold orderMoves
  have := orderAux_perm ms.length (ms.map fun m => (m, scoreMove G ttMove k m)) (by simp)
  simpa [List.map_map, Function.comp_def] using this

theorem orderMoves_mem {G : Game P M} {ttMove : Option M} {k : Option M × Option M} {ms : List M} {m : M} :
    m ∈ orderMoves G ttMove k ms ↔ m ∈ ms := (orderMoves_perm G ttMove k ms).mem_iff

/-- `firstMaxAux` over the rest `l` of a list whose part `pre` has been scanned, with the best so far at `bi`: the index
    of an element that is maximal in the whole list -/
theorem firstMaxAux_spec : ∀ (l pre : List (M × Nat)) (bi : Nat) (b : M × Nat), pre[bi]? = some b →
    (∀ y ∈ pre, y.2 ≤ b.2) →
    ∃ x, (pre ++ l)[firstMaxAux l pre.length bi b.2]? = some x ∧ ∀ y ∈ pre ++ l, y.2 ≤ x.2
  | [], pre, bi, b, hb, hmax => ⟨b, by simpa [firstMaxAux] using hb, by simpa using hmax⟩
  | x :: xs, pre, bi, b, hb, hmax => by
    have e : pre ++ x :: xs = (pre ++ [x]) ++ xs := by simp
    have hl : (pre ++ [x]).length = pre.length + 1 := by simp
    unfold firstMaxAux
    rw [e, ← hl]
    split
    · rename_i hx
      refine firstMaxAux_spec xs (pre ++ [x]) pre.length x (by simp) fun y hy => ?_
      rcases List.mem_append.1 hy with hy | hy
      · exact Nat.le_trans (hmax y hy) (Nat.le_of_lt hx)
      · rw [List.mem_singleton.1 hy]; exact Nat.le_refl _
    · rename_i hx
      refine firstMaxAux_spec xs (pre ++ [x]) bi b ?_ fun y hy => ?_
      · rw [List.getElem?_append_left (List.getElem?_eq_some_iff.1 hb).1]; exact hb
      · rcases List.mem_append.1 hy with hy | hy
        · exact hmax y hy
        · rw [List.mem_singleton.1 hy]; exact Nat.le_of_not_lt hx

theorem orderAux_head (n : Nat) (h : M × Nat) (t : List (M × Nat)) :
    ∃ x ∈ h :: t, (∀ y ∈ h :: t, y.2 ≤ x.2) ∧ ∃ rest, orderAux (n + 1) (h :: t) = x.1 :: rest := by
  obtain ⟨x, hx, hmax⟩ := firstMaxAux_spec t [h] 0 h rfl (by simp)
  have hx : (h :: t)[firstMaxIdx (h :: t)]? = some x := hx
  refine ⟨x, List.mem_of_getElem? hx, hmax, ?_⟩
  simp only [orderAux]
  generalize firstMaxIdx (h :: t) = j at hx
  cases j with
  | zero => simp at hx; subst hx; exact ⟨_, rfl⟩
  | succ j =>
    simp at hx
    simp only [Nat.add_one_ne_zero, if_false, Nat.add_sub_cancel, hx]
    exact ⟨_, rfl⟩

/-- `u64::MAX`, the score `score_move` reserves for the cached move -/
theorem scoreMove_cached (G : Game P M) (k : Option M × Option M) (m : M) :
    scoreMove G (some m) k m = 18446744073709551615 := by
  unfold scoreMove
  rw [if_pos rfl]

/-- any other move gets its static score and at most the first killer's bonus -/
theorem scoreMove_le (G : Game P M) (tm : Option M) (k : Option M × Option M) (m : M) (h : tm ≠ some m) :
    scoreMove G tm k m ≤ G.staticScore m + 2000 := by
  unfold scoreMove
  rw [if_neg h]
  dsimp only
  split
  · split
    · omega
    · split <;> omega
  · omega

/-- the cached move is tried first: `hs` keeps every other score, killer bonus included, below `u64::MAX` -/
theorem orderMoves_head (G : Game P M) (tm : M) (k : Option M × Option M) (ms : List M) (hm : tm ∈ ms)
    (hs : ∀ m ∈ ms, G.staticScore m + 2000 < 18446744073709551615) :
    ∃ rest, orderMoves G (some tm) k ms = tm :: rest := by
  unfold orderMoves
  cases ms with
  | nil => exact absurd hm List.not_mem_nil
  | cons a as =>
    obtain ⟨x, hx, hmax, rest, heq⟩ := orderAux_head as.length (a, scoreMove G (some tm) k a)
      (as.map fun m => (m, scoreMove G (some tm) k m))
    obtain ⟨m, hmm, rfl⟩ := List.mem_map.1 (show x ∈ (a :: as).map fun m => (m, scoreMove G (some tm) k m) from hx)
    have hle : scoreMove G (some tm) k tm ≤ scoreMove G (some tm) k m :=
      hmax _ (show (tm, _) ∈ (a :: as).map fun m => (m, scoreMove G (some tm) k m) from List.mem_map.2 ⟨tm, hm, rfl⟩)
    refine ⟨rest, ?_⟩
    rw [List.length_cons, List.map_cons, heq]
    by_cases hne : m = tm
    · rw [hne]
    · have h1 := scoreMove_le G (some tm) k m fun h => hne (Option.some.inj h).symm
      have h2 := hs m hmm
      rw [scoreMove_cached] at hle
      omega

theorem getElem?_insert_elim {tt : Table M} {k0 k : UInt64} {e0 e : Entry M} (h : (tt.insert k0 e0)[k]? = some e) :
    (k0 = k ∧ e0 = e) ∨ tt[k]? = some e := by
  rw [Std.HashMap.getElem?_insert] at h
  split at h
  · rename_i hk
    exact .inl ⟨by simpa using hk, by simpa using h⟩
  · exact .inr h

def enter (updSel : Bool) (st : St M) : St M :=
  { st with nodes := st.nodes + 1, ply := st.ply + 1,
            seldepth := if updSel then max st.seldepth (st.ply + 1) else st.seldepth }

def leave (st : St M) : St M := { st with ply := st.ply - 1 }

/-- the PVS window logic of `pvsChild` between entering and leaving the child, in projection form: `null` is the search
    in the null window above `alpha`, `full` the one in the full window -/
def pvsCore (rec : P → Int → Int → Nat → St M → Int × St M) (c : P) (alpha beta : Int) (depth : Nat) (pvs : Bool)
    (st : St M) : Int × St M :=
  let null := rec c (satNeg alpha - 1) (satNeg alpha) (depth - 1) st
  let full := fun s => rec c (satNeg beta) (satNeg alpha) (depth - 1) s
  if pvs then
    if alpha < satNeg null.1 && satNeg null.1 < beta then (satNeg (full null.2).1, (full null.2).2)
    else (satNeg null.1, null.2)
  else (satNeg (full st).1, (full st).2)

theorem pvsChild_eq (G : Game P M) (rec : P → Int → Int → Nat → St M → Int × St M) (p : P) (m : M) (alpha beta : Int)
    (depth : Nat) (pvs updSel : Bool) (st : St M) :
    pvsChild G rec p m alpha beta depth pvs updSel st =
      ((pvsCore rec (G.play p m) alpha beta depth pvs (enter updSel st)).1,
       leave (pvsCore rec (G.play p m) alpha beta depth pvs (enter updSel st)).2) := by
  unfold pvsChild pvsCore enter leave
  cases pvs <;> cases updSel <;> simp only [Bool.false_eq_true, if_false, if_true]

def _root_.RCE.Search.QLoop.st : QLoop M → St M
  | .cut st => st
  | .done _ st => st

def _root_.RCE.Search.QLoop.val (beta : Int) : QLoop M → Int
  | .cut _ => beta
  | .done alpha _ => alpha

def _root_.RCE.Search.Loop.st : Loop M → St M
  | .abort st => st
  | .cut st => st
  | .done _ _ _ st => st

/-- a quiescence child is a `pvsChild` without the PVS logic, so one lemma about `pvsChild` serves all three loops -/
theorem qKids_cons (G : Game P M) (rec : P → Int → Int → St M → Int × St M) (p : P) (m : M) (ms : List M)
    (alpha beta : Int) (st : St M) :
    qKids G rec p (m :: ms) alpha beta st =
      if !G.legal p m then qKids G rec p ms alpha beta st else
      let r := pvsChild G (fun c a b _ => rec c a b) p m alpha beta 0 false true st
      if r.1 ≥ beta then .cut r.2
      else if r.1 > alpha then qKids G rec p ms r.1 beta r.2
      else qKids G rec p ms alpha beta r.2 := by
  simp only [qKids, pvsChild, Bool.false_eq_true, if_false, if_true]

theorem quiesce_zero (env : Env) (G : Game P M) (p : P) (alpha beta : Int) (st : St M) :
    quiesce env G 0 p alpha beta st = (0, st) := rfl

theorem quiesce_succ (env : Env) (G : Game P M) (fuel : Nat) (p : P) (alpha beta : Int) (st : St M) :
    quiesce env G (fuel + 1) p alpha beta st =
      let c := abortCheck env st
      if c.1 then (0, c.2) else
      if G.eval p ≥ beta then (beta, c.2) else
      let r := qKids G (quiesce env G fuel) p
          (orderMoves G ((c.2.tt[G.key p]?).map (·.best)) (c.2.killers.getD c.2.ply (none, none))
            ((G.allMoves p).filter G.isCapture))
          (if G.eval p > alpha then G.eval p else alpha) beta c.2
      (r.val beta, r.st) := by
  simp only [quiesce]
  by_cases h1 : (abortCheck env st).1 = true
  · rw [if_pos h1, if_pos h1]
  rw [if_neg h1, if_neg h1]
  by_cases h2 : G.eval p ≥ beta
  · rw [if_pos h2, if_pos h2]
  rw [if_neg h2, if_neg h2]
  generalize qKids G (quiesce env G fuel) p _ _ beta _ = r
  cases r <;> rfl

theorem abKids_cons (env : Env) (G : Game P M) (rec : P → Int → Int → Nat → St M → Int × St M) (p : P) (depth : Nat)
    (m : M) (ms : List M) (alpha beta : Int) (best : M) (pvs : Bool) (n : Nat) (st : St M) :
    abKids env G rec p depth (m :: ms) alpha beta best pvs n st =
      if !G.legal p m then abKids env G rec p depth ms alpha beta best pvs n st else
      let r := pvsChild G rec p m alpha beta depth pvs true st
      let c := abortCheck env r.2
      if c.1 then .abort c.2 else
      if r.1 ≥ beta then .cut (storeKillers G m (c.2.insert (G.key p) ⟨r.1, depth, .lower, m⟩ 2))
      else if r.1 > alpha then abKids env G rec p depth ms r.1 beta m true (n + 1) c.2
      else abKids env G rec p depth ms alpha beta best pvs (n + 1) c.2 := by
  simp only [abKids]

def abBody (env : Env) (G : Game P M) (fuel : Nat) (p : P) (alpha0 : Int) (depth0 : Nat) (alpha beta : Int) (st : St M) :
    Int × St M :=
  let depth := if G.inCheck p then depth0 + 1 else depth0
  if depth = 0 then quiesce env G (fuel + 1) p alpha beta st else
  match abKids env G (ab env G fuel) p depth
      (orderMoves G ((st.tt[G.key p]?).map (·.best)) (st.killers.getD st.ply (none, none)) (G.allMoves p))
      alpha beta ((G.allMoves p).headD G.defaultMove) false 0 st with
  | .abort st => (0, st)
  | .cut st => (beta, st)
  | .done alpha best n st =>
    if n = 0 then (if G.inCheck p then (MINS + st.ply, st) else (0, st))
    else (alpha, st.insert (G.key p) ⟨alpha, depth, if alpha ≤ alpha0 then .upper else .exact, best⟩ 3)

def probeSt (env : Env) (st : St M) : St M := if env.cacheOff then { st with tt := {} } else st

theorem ab_zero (env : Env) (G : Game P M) (p : P) (alpha beta : Int) (depth : Nat) (st : St M) :
    ab env G 0 p alpha beta depth st = (0, st) := rfl

theorem ab_succ (env : Env) (G : Game P M) (fuel : Nat) (p : P) (alpha0 beta0 : Int) (depth : Nat) (st : St M) :
    ab env G (fuel + 1) p alpha0 beta0 depth st =
      let c := abortCheck env st
      if c.1 then (0, c.2) else
      if G.fifty p then (0, c.2) else
      if G.repeated p then (0, c.2) else
      match probe (probeSt env c.2).tt (G.key p) depth alpha0 beta0 with
      | .inl s => (s, probeSt env c.2)
      | .inr (alpha, beta) => abBody env G fuel p alpha0 depth alpha beta (probeSt env c.2) := by
  simp only [ab, abBody, probeSt]
  rfl

def rootAbort (alpha : Int) (best : M) (st : St M) : St M :=
  if (match st.bestScore with | some s => decide (alpha > s) | none => false)
  then { st with bestScore := some alpha, bestMove := some best } else st

theorem rootKids_cons (env : Env) (G : Game P M) (rec : P → Int → Int → Nat → St M → Int × St M) (p : P) (depth : Nat)
    (m : M) (ms : List M) (alpha : Int) (best : M) (pvs : Bool) (n : Nat) (st : St M) :
    rootKids env G rec p depth (m :: ms) alpha best pvs n st =
      if !G.legal p m then rootKids env G rec p depth ms alpha best pvs n st else
      let r := pvsChild G rec p m alpha MAXS depth pvs false st
      let c := abortCheck env r.2
      if c.1 then .abort (rootAbort alpha best c.2)
      else if r.1 > alpha then rootKids env G rec p depth ms r.1 m true (n + 1) c.2
      else rootKids env G rec p depth ms alpha best pvs (n + 1) c.2 := by
  simp only [rootKids, rootAbort]
  rfl

def rootSave (env : Env) (G : Game P M) (p : P) (depth : Nat) (alpha : Int) (best : M) (st : St M) : St M :=
  if (abortCheck env st).1 then (abortCheck env st).2 else
  { (abortCheck env st).2.insert (G.key p) ⟨alpha, depth, .exact, best⟩ 1 with bestScore := some alpha, bestMove := some best }

theorem abStart_eq (env : Env) (G : Game P M) (p : P) (depth : Nat) (st : St M) :
    abStart env G p depth st =
      match G.allMoves p with
      | [] => st
      | m0 :: _ =>
        match rootKids env G (ab env G 255) p depth
            (orderMoves G ((st.tt[G.key p]?).map (·.best)) (st.killers.getD st.ply (none, none)) (G.allMoves p))
            MINS m0 false 0 st with
        | .abort st => st
        | .done alpha best n st => if n = 0 then st else rootSave env G p depth alpha best st := by
  unfold abStart rootSave
  cases G.allMoves p with
  | nil => rfl
  | cons m0 t =>
    simp only []
    generalize rootKids env G (ab env G 255) p depth _ MINS m0 false 0 st = r
    cases r with
    | abort s => rfl
    | done a b n s =>
      simp only []

theorem iterate_zero (env : Env) (G : Game P M) (p : P) (maxDepth d : Nat) (st : St M) (infos : List (InfoLine M)) :
    iterate env G p maxDepth 0 d st infos = (st, infos) := rfl

theorem iterate_succ (env : Env) (G : Game P M) (p : P) (maxDepth fuel d : Nat) (st : St M) (infos : List (InfoLine M)) :
    iterate env G p maxDepth (fuel + 1) d st infos =
      if d > maxDepth then (st, infos) else
      let c := abortCheck env (abStart env G p d st)
      if c.1 then (c.2, infos) else
      iterate env G p maxDepth fuel (d + 1) c.2 (infos ++ [infoLine d c.2 (getPv G c.2.tt d p)]) := by
  simp only [iterate]

theorem qKids_filter (G : Game P M) (rec : P → Int → Int → St M → Int × St M) (p : P) (beta : Int) :
    ∀ (ms : List M) (alpha : Int) (st : St M),
      qKids G rec p ms alpha beta st = qKids G rec p (ms.filter (G.legal p)) alpha beta st := by
  intro ms
  induction ms with
  | nil => intro alpha st; rfl
  | cons m ms ih =>
    intro alpha st
    cases hl : G.legal p m with
    | false => rw [qKids_cons, List.filter_cons_of_neg (by simp [hl]), hl]; exact ih _ _
    | true => rw [qKids_cons, List.filter_cons_of_pos hl, qKids_cons, hl]; simp only [ih]

theorem abKids_filter (env : Env) (G : Game P M) (rec : P → Int → Int → Nat → St M → Int × St M) (p : P) (depth : Nat)
    (beta : Int) : ∀ (ms : List M) (alpha : Int) (best : M) (pvs : Bool) (n : Nat) (st : St M),
      abKids env G rec p depth ms alpha beta best pvs n st =
      abKids env G rec p depth (ms.filter (G.legal p)) alpha beta best pvs n st := by
  intro ms
  induction ms with
  | nil => intros; rfl
  | cons m ms ih =>
    intro alpha best pvs n st
    cases hl : G.legal p m with
    | false => rw [abKids_cons, List.filter_cons_of_neg (by simp [hl]), hl]; exact ih _ _ _ _ _
    | true => rw [abKids_cons, List.filter_cons_of_pos hl, abKids_cons, hl]; simp only [ih]

theorem rootKids_filter (env : Env) (G : Game P M) (rec : P → Int → Int → Nat → St M → Int × St M) (p : P) (depth : Nat) :
    ∀ (ms : List M) (alpha : Int) (best : M) (pvs : Bool) (n : Nat) (st : St M),
      rootKids env G rec p depth ms alpha best pvs n st =
      rootKids env G rec p depth (ms.filter (G.legal p)) alpha best pvs n st := by
  intro ms
  induction ms with
  | nil => intros; rfl
  | cons m ms ih =>
    intro alpha best pvs n st
    cases hl : G.legal p m with
    | false => rw [rootKids_cons, List.filter_cons_of_neg (by simp [hl]), hl]; exact ih _ _ _ _ _
    | true => rw [rootKids_cons, List.filter_cons_of_pos hl, rootKids_cons, hl]; simp only [ih]

theorem ordered_legal_perm (G : Game P M) (p : P) (tm : Option M) (k : Option M × Option M) :
    List.Perm ((orderMoves G tm k (G.allMoves p)).filter (G.legal p)) (legalMovesOf G p) :=
  (orderMoves_perm G tm k _).filter _

theorem ordered_captures_perm (G : Game P M) (p : P) (tm : Option M) (k : Option M × Option M) :
    List.Perm ((orderMoves G tm k ((G.allMoves p).filter G.isCapture)).filter (G.legal p))
      ((legalMovesOf G p).filter G.isCapture) := by
  refine ((orderMoves_perm G tm k _).filter _).trans ?_
  unfold legalMovesOf
  rw [List.filter_filter, List.filter_filter]
  simp only [Bool.and_comm]
  exact List.Perm.refl _

theorem qKids_cons_legal (G : Game P M) (rec : P → Int → Int → St M → Int × St M) (p : P) (m : M) (ms : List M)
    (alpha beta : Int) (st : St M) (hl : G.legal p m = true) :
    qKids G rec p (m :: ms) alpha beta st =
      let r := pvsChild G (fun c a b _ => rec c a b) p m alpha beta 0 false true st
      if r.1 ≥ beta then .cut r.2 else qKids G rec p ms (max alpha r.1) beta r.2 := by
  rw [qKids_cons, hl]
  simp only [Bool.not_true, Bool.false_eq_true, if_false]
  split
  · rfl
  · split
    · rw [Int.max_eq_right (by omega)]
    · rw [Int.max_eq_left (by omega)]

/-- the two continuations of a move loop, with alpha raised to the score `r` or not, are one: the new alpha is
    `max alpha r`, and the best move and the PVS flag change if `r` raised it -/
theorem raise_eq {β : Sort _} (F : Int → M → Bool → β) (alpha r : Int) (m best : M) (pvs : Bool) :
    (if r > alpha then F r m true else F alpha best pvs) =
      F (max alpha r) (if alpha < r then m else best) (pvs || decide (alpha < r)) := by
  by_cases h : alpha < r
  · rw [if_pos h, if_pos h, Int.max_eq_right (by omega)]; simp [h]
  · rw [if_neg h, if_neg h, Int.max_eq_left (by omega)]; simp [h]

theorem abKids_cons_legal (env : Env) (G : Game P M) (rec : P → Int → Int → Nat → St M → Int × St M) (p : P) (depth : Nat)
    (m : M) (ms : List M) (alpha beta : Int) (best : M) (pvs : Bool) (n : Nat) (st : St M) (hl : G.legal p m = true) :
    abKids env G rec p depth (m :: ms) alpha beta best pvs n st =
      let r := pvsChild G rec p m alpha beta depth pvs true st
      let c := abortCheck env r.2
      if c.1 then .abort c.2 else
      if r.1 ≥ beta then .cut (storeKillers G m (c.2.insert (G.key p) ⟨r.1, depth, .lower, m⟩ 2))
      else abKids env G rec p depth ms (max alpha r.1) beta (if alpha < r.1 then m else best)
        (pvs || decide (alpha < r.1)) (n + 1) c.2 := by
  rw [abKids_cons, hl]
  simp only [Bool.not_true, Bool.false_eq_true, if_false]
  rw [raise_eq (fun a b q => abKids env G rec p depth ms a beta b q (n + 1)
    (abortCheck env (pvsChild G rec p m alpha beta depth pvs true st).2).2)]

theorem rootKids_cons_legal (env : Env) (G : Game P M) (rec : P → Int → Int → Nat → St M → Int × St M) (p : P) (depth : Nat)
    (m : M) (ms : List M) (alpha : Int) (best : M) (pvs : Bool) (n : Nat) (st : St M) (hl : G.legal p m = true) :
    rootKids env G rec p depth (m :: ms) alpha best pvs n st =
      let r := pvsChild G rec p m alpha MAXS depth pvs false st
      let c := abortCheck env r.2
      if c.1 then .abort (rootAbort alpha best c.2)
      else rootKids env G rec p depth ms (max alpha r.1) (if alpha < r.1 then m else best)
        (pvs || decide (alpha < r.1)) (n + 1) c.2 := by
  rw [rootKids_cons, hl]
  simp only [Bool.not_true, Bool.false_eq_true, if_false]
  rw [raise_eq (fun a b q => rootKids env G rec p depth ms a b q (n + 1)
    (abortCheck env (pvsChild G rec p m alpha MAXS depth pvs false st).2).2)]

/-- What one abort check keeps (`abortCheck_frame`): every field but `polls`, `running`, `clockReads`, `aborted`.  The
    relations that hold across whole routines are `Keep` (`SearchBest`) and `Kept` (`SearchAcross`). -/
structure Frame (st st' : St M) : Prop where
  tt : st'.tt = st.tt
  nodes : st'.nodes = st.nodes
  ply : st'.ply = st.ply
  seldepth : st'.seldepth = st.seldepth
  killers : st'.killers = st.killers
  bestMove : st'.bestMove = st.bestMove
  bestScore : st'.bestScore = st.bestScore
  writes : st'.writes = st.writes

theorem limitsExceeded_eq (env : Env) (st : St M) :
    ∃ r c, (limitsExceeded env st).2 = { st with running := r, clockReads := c } ∧ st.clockReads ≤ c ∧
      (st.running = false → r = false) := by
  unfold limitsExceeded
  by_cases hp : st.ply = 255
  · rw [if_pos (by simpa using hp)]; exact ⟨st.running, st.clockReads, rfl, Nat.le_refl _, id⟩
  rcases hn : env.limits.nodes with _ | n <;> rcases hm : env.limits.movetime with _ | mt <;>
    simp only [hp, beq_iff_eq, if_false, Bool.false_eq_true]
  · exact ⟨_, _, rfl, Nat.le_succ _, id⟩
  · split
    · exact ⟨_, _, rfl, Nat.le_succ _, fun _ => rfl⟩
    · exact ⟨_, _, rfl, Nat.le_add_right _ 2, id⟩
  · split
    · exact ⟨_, _, rfl, Nat.le_refl _, fun _ => rfl⟩
    · exact ⟨_, _, rfl, Nat.le_succ _, id⟩
  · split
    · exact ⟨_, _, rfl, Nat.le_refl _, fun _ => rfl⟩
    · split
      · exact ⟨_, _, rfl, Nat.le_succ _, fun _ => rfl⟩
      · exact ⟨_, _, rfl, Nat.le_add_right _ 2, id⟩

/-- the three ways an abort check ends: the stop flag, the ply cap, the limits -/
theorem abortCheck_cases (env : Env) (st : St M) :
    abortCheck env st = (true, { (poll env st).2 with aborted := true }) ∧ (poll env st).1 = false ∨
    abortCheck env st = (true, (poll env st).2) ∧ (poll env st).1 = true ∧ st.ply = 255 ∨
    (poll env st).1 = true ∧ st.ply ≠ 255 ∧
      abortCheck env st = ((limitsExceeded env (poll env st).2).1,
        if (limitsExceeded env (poll env st).2).1 then { (limitsExceeded env (poll env st).2).2 with aborted := true }
        else (limitsExceeded env (poll env st).2).2) := by
  have hply : (poll env st).2.ply = st.ply := rfl
  unfold abortCheck
  cases hr : (poll env st).1
  · exact .inl ⟨by simp only [hr]; rfl, rfl⟩
  · by_cases hp : st.ply = 255
    · exact .inr (.inl ⟨by simp only [hr, hply, hp]; rfl, rfl, hp⟩)
    · refine .inr (.inr ⟨rfl, hp, ?_⟩)
      simp only [hr, hply, hp, beq_iff_eq, Bool.not_true, Bool.false_eq_true, if_false]

theorem poll_of_stopped (env : Env) (st : St M) (h : st.running = false) : (poll env st).1 = false := by
  unfold poll; simp [h]

theorem abortCheck_eq (env : Env) (st : St M) :
    ∃ r c a, (abortCheck env st).2 = { st with polls := st.polls + 1, running := r, clockReads := c, aborted := a } ∧
      st.clockReads ≤ c ∧ (st.running = false → r = false) := by
  obtain ⟨r, c, h, hc, hr⟩ := limitsExceeded_eq env (poll env st).2
  have hpr := poll_of_stopped env st
  rcases abortCheck_cases env st with ⟨h', _⟩ | ⟨h', _⟩ | ⟨_, _, h'⟩ <;> rw [h']
  · exact ⟨_, _, _, rfl, Nat.le_refl _, hpr⟩
  · exact ⟨_, _, st.aborted, rfl, Nat.le_refl _, hpr⟩
  · dsimp only
    rw [h]
    split
    · exact ⟨r, c, true, rfl, hc, fun h => hr (hpr h)⟩
    · exact ⟨r, c, st.aborted, rfl, hc, fun h => hr (hpr h)⟩

theorem abortCheck_frame (env : Env) (st : St M) : Frame st (abortCheck env st).2 := by
  obtain ⟨r, c, a, h, _⟩ := abortCheck_eq env st
  rw [h]; exact ⟨rfl, rfl, rfl, rfl, rfl, rfl, rfl, rfl⟩

theorem abortCheck_false_ply {env : Env} {st : St M} (h : (abortCheck env st).1 = false) : st.ply ≠ 255 := by
  rcases abortCheck_cases env st with ⟨h', _⟩ | ⟨h', _⟩ | ⟨_, hp, _⟩
  · rw [h'] at h; cases h
  · rw [h'] at h; cases h
  · exact hp

theorem rootAbort_cases (alpha : Int) (best : M) (st : St M) :
    rootAbort alpha best st = st ∨
    ∃ s, st.bestScore = some s ∧ alpha > s ∧
      rootAbort alpha best st = { st with bestScore := some alpha, bestMove := some best } := by
  unfold rootAbort
  cases hbs : st.bestScore with
  | none => exact .inl rfl
  | some s =>
    by_cases h : alpha > s
    · exact .inr ⟨s, rfl, h, by simp only [h, decide_true, if_true]⟩
    · exact .inl (by simp only [h, decide_false, Bool.false_eq_true, if_false])

theorem probeSt_eq (env : Env) (st : St M) :
    probeSt env st = { st with tt := if env.cacheOff then {} else st.tt } := by
  unfold probeSt
  split <;> rfl

theorem storeKillers_eq (G : Game P M) (m : M) (st : St M) : ∃ k, storeKillers G m st = { st with killers := k } := by
  unfold storeKillers
  split
  · exact ⟨_, rfl⟩
  · dsimp only
    split
    · exact ⟨_, rfl⟩
    · exact ⟨_, rfl⟩

theorem storeKillers_tt (G : Game P M) (m : M) (st : St M) : (storeKillers G m st).tt = st.tt := by
  obtain ⟨k, h⟩ := storeKillers_eq G m st
  rw [h]

end RCE.Proofs.SearchUnfold
