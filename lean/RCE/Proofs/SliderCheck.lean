import RCE.Proofs.Deposit
import RCE.Proofs.Fill
import RCE.Spec.Rules
/-! The per-square checks of a magic slider table (C06): `sliderOK`, the check `sliderOK_sound` is stated for, and
    `sliderPacked`, the cheaper one that is evaluated (`SliderChk/Sq*.lean`).  What a successful check gives is in
    `SliderSound`. -/
namespace RCE.Proofs.SliderCheck
open RCE RCE.Proofs.BoardBits RCE.Proofs.Deposit

/-- the ray table without the array (kernel-cheap) -/
def rayT' (idx dir : Nat) : BB := if idx < 64 then ray idx dir else 0

/-- what `cutRay` removes, as a function of the blockers on the ray -/
def cc (dir : Nat) (fwd : Bool) (y : BB) : BB :=
  if y != 0 then rayT' (if fwd then bsf y else bsr y) dir else 0

structure Dir where
  d : Nat
  fwd : Bool
  v : Int × Int

def slow4 (sq : Nat) (D1 D2 D3 D4 : Dir) (x : BB) : BB :=
  let a := rayT sq D1.d ||| rayT sq D2.d ||| rayT sq D3.d ||| rayT sq D4.d
  cutRay (cutRay (cutRay (cutRay a sq D1.d D1.fwd x) sq D2.d D2.fwd x) sq D3.d D3.fwd x) sq D4.d D4.fwd x

structure Cfg where
  sq : Nat
  D1 : Dir
  D2 : Dir
  D3 : Dir
  D4 : Dir
  mask : BB
  magic : BB
  bits : Nat
  size : Nat

/-- the attacked part of one ray, as a function of the blockers on the ray -/
def seg (sq : Nat) (D : Dir) (y : BB) : BB := rayT' sq D.d &&& ~~~ cc D.d D.fwd y

def rmask (c : Cfg) (D : Dir) : BB := c.mask &&& rayT' c.sq D.d

def fullRay (sq : Nat) (v : Int × Int) : List Nat := Rules.slideOcc (fun _ => false) sq v 7

/-- one ray `D` of the configuration against the other three; what each part buys is `rayOK_sound` -/
def rayOK (c : Cfg) (D o1 o2 o3 : Dir) : Bool :=
  let mi := rmask c D
  let ps := bitIndices mi
  decide (D.d < 8) &&
  -- `subsOf ps` lists exactly the submasks of the ray's part of the mask
  (orBits ps == mi) &&
  -- the mask keeps every ray square that has a successor: masking the occupancy does not change the slide
  (fullRay c.sq D.v).all (fun t => decide (t < 64) && (!(Rules.step t D.v.1 D.v.2).isSome || testBit mi t)) &&
  -- for every set of blockers on the ray: the walk's segment is the spec's slide …
  (subsOf ps).all fun y =>
    let l := Rules.slideOcc (fun t => testBit y t) c.sq D.v 7
    l.all (fun t => decide (t < 64)) && (orBits l == seg c.sq D y) &&
    -- … and what the walk cuts off lies on none of the other rays (so the four cuts do not interfere: `slow4_split`)
    (cc D.d D.fwd y &&& rayT' c.sq o1.d == 0) &&
    (cc D.d D.fwd y &&& rayT' c.sq o2.d == 0) &&
    (cc D.d D.fwd y &&& rayT' c.sq o3.d == 0)

def layer (c : Cfg) (D : Dir) : List (BB × BB) :=
  (subsOf (bitIndices (rmask c D))).map fun y => (y, seg c.sq D y)

def cross (E L : List (BB × BB)) : List (BB × BB) :=
  E.flatMap fun e => L.map fun l => (e.1 ||| l.1, e.2 ||| l.2)

def pairs (c : Cfg) : List (BB × BB) :=
  cross (cross (cross (layer c c.D1) (layer c c.D2)) (layer c c.D3)) (layer c c.D4)

/-! kernel-strict evaluation helpers (semantically identities) -/

/-- forces `n` to a literal before continuing (the kernel evaluates the `match` scrutinee) -/
def forceNat {α : Type} (n : Nat) (k : Nat → α) : α :=
  match n with
  | 0 => k 0
  | m+1 => k (m+1)

theorem forceNat_eq {α : Type} (n : Nat) (k : Nat → α) : forceNat n k = k n := by
  cases n <;> rfl

def forceList {α : Type} : List (Nat × Nat) → (List (Nat × Nat) → α) → α
  | [], k => k []
  | e :: t, k => forceNat e.1 fun a => forceNat e.2 fun b => forceList t fun t' => k ((a, b) :: t')

theorem forceList_eq {α : Type} (l : List (Nat × Nat)) (k : List (Nat × Nat) → α) : forceList l k = k l := by
  induction l generalizing k with
  | nil => rfl
  | cons e t ih => simp only [forceList, forceNat_eq, ih]

def layerN (c : Cfg) (D : Dir) : List (Nat × Nat) := (layer c D).map fun e => (e.1.toNat, e.2.toNat)

def crossN (E L : List (Nat × Nat)) : List (Nat × Nat) :=
  E.flatMap fun e => L.map fun l => (e.1 ||| l.1, e.2 ||| l.2)

def keyN (x Mn s : Nat) : Nat := ((x * Mn) % 2 ^ 64) >>> s

/-- one strict partition pass on key bit `j` -/
def part (j : Nat) : List (Nat × Nat) → List (Nat × Nat) → List (Nat × Nat) → List (Nat × Nat) × List (Nat × Nat)
  | [], a, b => (a, b)
  | e :: t, a, b =>
    match Nat.mod (Nat.shiftRight e.1 j) 2 with
    | 0 => part j t a (e :: b)
    | _+1 => part j t (e :: a) b

/-- radix partition on the key bits; at the leaves all entries must be identical.  Kept for `sliderOK_sound` only:
    the collision test that is evaluated is `packedOK` -/
def radix : Nat → Nat → List (Nat × Nat) → Bool
  | _, _, [] => true
  | 0, _, e :: t => t.all fun e' => Nat.beq e'.1 e.1 && Nat.beq e'.2 e.2
  | d+1, j, e :: t =>
    match part j (e :: t) [] [] with
    | (a, b) => radix d (j+1) a && radix d (j+1) b

def mainOK (c : Cfg) : Bool :=
  forceList (layerN c c.D1) fun L1 => forceList (layerN c c.D2) fun L2 =>
  forceList (layerN c c.D3) fun L3 => forceList (layerN c c.D4) fun L4 =>
  forceNat c.magic.toNat fun Mn => forceNat ((64 - c.bits).toUInt64.toNat % 64) fun s =>
  forceList ((crossN (crossN (crossN L1 L2) L3) L4).map fun e => (keyN e.1 Mn s, e.2)) fun kv =>
    kv.all (fun e => decide (e.1 < c.size)) && radix c.bits 0 kv

/-- `sliderOK` without its collision test (`RaysOK`) -/
def raysOK (c : Cfg) : Bool :=
  let ps := posList (popcount c.mask) c.mask
  -- the `2 ^ bits` indices of the fill deposit onto every submask of the mask (`lookup_of_noClash`)
  decide (ps.length ≤ c.bits) && (orBits ps == c.mask) &&
  -- the mask is the union of its four ray parts: a submask splits into one blocker set per ray (`split4`)
  (rmask c c.D1 ||| rmask c c.D2 ||| rmask c c.D3 ||| rmask c c.D4 == c.mask) &&
  rayOK c c.D1 c.D2 c.D3 c.D4 && rayOK c c.D2 c.D1 c.D3 c.D4 &&
  rayOK c c.D3 c.D1 c.D2 c.D4 && rayOK c c.D4 c.D1 c.D2 c.D3

/-- `raysOK` written out, then the radix collision test: `sliderOK c = (raysOK c && mainOK c)` by `rfl` -/
def sliderOK (c : Cfg) : Bool :=
  let ps := posList (popcount c.mask) c.mask
  decide (ps.length ≤ c.bits) && (orBits ps == c.mask) &&
  (rmask c c.D1 ||| rmask c c.D2 ||| rmask c c.D3 ||| rmask c c.D4 == c.mask) &&
  rayOK c c.D1 c.D2 c.D3 c.D4 && rayOK c c.D2 c.D1 c.D3 c.D4 &&
  rayOK c c.D3 c.D1 c.D2 c.D4 && rayOK c c.D4 c.D1 c.D2 c.D3 &&
  mainOK c

/-! The collision test through a packed table.

`mainOK` sorts the (index, attack set) pairs by radix partition; with the four-fold `flatMap` that enumerates them this
would be nine tenths of the kernel's work on a rook square.  `packedOK` writes every attack set into its slot of one natural
number (the table, 64 bits per index) and then reads every slot back: a destructive collision leaves a slot that differs
from one of its writers.  Soundness needs nothing about how the number was made (`packedOK_sound`).

Shaped for the kernel: the submasks are enumerated as a double loop over rays 1 × 3 and rays 2 × 4 (at most 64 each for
rook and bishop, opposite rays sharing a line); `Nat.lor`, `Nat.mul` … are written out because unfolding `|||`, `*`,
`2 ^ 64` through their instances at every entry doubles the cost; and the word below slot 0 counts the writes, because
the kernel hashes a numeral by its low bits only and thousands of accumulators that differ in high bits alone make its
caches degenerate. -/

/-- slot `k` of the packed table `T` (bits `64 (k + 1) …`; the lowest word is not a slot) -/
def slot (T k : Nat) : Nat := Nat.mod (Nat.shiftRight T (Nat.mul 64 (Nat.succ k))) 18446744073709551616

def put (Mn s : Nat) (ea eb : Nat × Nat) (T : Nat) : Nat :=
  Nat.lor (Nat.succ T)
    (Nat.shiftLeft (Nat.lor ea.2 eb.2) (Nat.mul 64 (Nat.succ (keyN (Nat.lor ea.1 eb.1) Mn s))))

/-- `f e₁ (f e₂ … T)` along the list, the accumulator forced to a numeral at every step -/
def foldF (f : Nat × Nat → Nat → Nat) : List (Nat × Nat) → Nat → Nat
  | [], T => T
  | e :: t, T => forceNat (f e T) (foldF f t)

def slotOK (size Mn s T : Nat) (ea eb : Nat × Nat) : Bool :=
  forceNat (keyN (Nat.lor ea.1 eb.1) Mn s) fun k => Nat.blt k size && Nat.beq (slot T k) (Nat.lor ea.2 eb.2)

def packedOK (c : Cfg) : Bool :=
  forceList (crossN (layerN c c.D1) (layerN c c.D3)) fun A =>
  forceList (crossN (layerN c c.D2) (layerN c c.D4)) fun B =>
  forceNat c.magic.toNat fun Mn => forceNat ((64 - c.bits).toUInt64.toNat % 64) fun s =>
  forceNat (foldF (fun ea => foldF (put Mn s ea) B) A 0) fun T =>
    A.all fun ea => B.all fun eb => slotOK c.size Mn s T ea eb

/-- the check that is evaluated per square: `sliderOK` with `packedOK` in place of `mainOK` -/
def sliderPacked (c : Cfg) : Bool := raysOK c && packedOK c

def rookCfg (sq : Nat) : Cfg :=
  { sq := sq, D1 := ⟨dN, true, (0, 1)⟩, D2 := ⟨dE, true, (1, 0)⟩, D3 := ⟨dS, false, (0, -1)⟩, D4 := ⟨dW, false, (-1, 0)⟩,
    mask := rookMask sq, magic := rookMagic sq, bits := rookBitsAt sq, size := Gen.rookTableSize }

def bishopCfg (sq : Nat) : Cfg :=
  { sq := sq, D1 := ⟨dNW, true, (-1, 1)⟩, D2 := ⟨dNE, true, (1, 1)⟩, D3 := ⟨dSW, false, (-1, -1)⟩, D4 := ⟨dSE, false, (1, -1)⟩,
    mask := bishopMask sq, magic := bishopMagic sq, bits := bishopBitsAt sq, size := Gen.bishopTableSize }

end RCE.Proofs.SliderCheck
