import RCE.Proofs.SliderSound
import RCE.Proofs.BitScan
/-! The slider checks of squares 0–15, evaluated by the kernel on the regenerated magics. -/
namespace RCE.Proofs.SliderChk
open RCE.Proofs.SliderCheck RCE.Proofs.Deposit RCE.Proofs.BitScan

-- before evaluating, the bit scans are put in their `Nat` forms: the kernel computes `Nat.log2` in one step, a scan on
-- `UInt64` in 64
theorem rook_0 : allOK rookCfg 0 = true := by
  simp only [allOK, sliderPacked, raysOK, rayOK, packedOK, layerN, layer, seg, cc, bsf_eq, bsr_eq, posList_eq, bitIndices_eq]
  decide +kernel
theorem bishop_0 : allOK bishopCfg 0 = true := by
  simp only [allOK, sliderPacked, raysOK, rayOK, packedOK, layerN, layer, seg, cc, bsf_eq, bsr_eq, posList_eq, bitIndices_eq]
  decide +kernel

end RCE.Proofs.SliderChk
