import RCE.Proofs.SliderSound
import RCE.Proofs.BitScan
/-! The slider checks of squares 32–47, evaluated by the kernel on the regenerated magics. -/
namespace RCE.Proofs.SliderChk
open RCE.Proofs.SliderCheck RCE.Proofs.Deposit RCE.Proofs.BitScan

-- the rewriting before the evaluation: see `Sq00`
theorem rook_32 : allOK rookCfg 32 = true := by
  simp only [allOK, sliderPacked, raysOK, rayOK, packedOK, layerN, layer, seg, cc, bsf_eq, bsr_eq, posList_eq, bitIndices_eq]
  decide +kernel
theorem bishop_32 : allOK bishopCfg 32 = true := by
  simp only [allOK, sliderPacked, raysOK, rayOK, packedOK, layerN, layer, seg, cc, bsf_eq, bsr_eq, posList_eq, bitIndices_eq]
  decide +kernel

end RCE.Proofs.SliderChk
