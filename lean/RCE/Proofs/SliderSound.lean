import RCE.Proofs.SliderCheck
/-! What a successful per-square check gives (C06): `RaysOK` — each ray's segment is the spec's slide and the four cuts do not
    interfere, so `slow4` of the masked occupancy is the spec's attack set (`exact_of_raysOK`) — and `NoClash` — the table fill
    has no destructive collision, so the lookup finds that value (`lookup_of_noClash`).  `sliderOK` and `sliderPacked` both
    establish the two; `sliderOK_sound` and `lookup?_eq` put them together. -/
namespace RCE.Proofs.SliderCheck
open RCE RCE.Proofs.BoardBits RCE.Proofs.Deposit

theorem rayT_eq (idx dir : Nat) (hd : dir < 8) : rayT idx dir = rayT' idx dir := by
  unfold rayT rayT' rayTable
  rw [getD_map_range]
  by_cases h : idx < 64
  · rw [if_pos (by omega), if_pos h, show (idx * 8 + dir) / 8 = idx by omega, show (idx * 8 + dir) % 8 = dir by omega]
  · rw [if_neg (by omega), if_neg h]

theorem cutRay_eq (a : BB) (sq dir : Nat) (fwd : Bool) (x : BB) (hd : dir < 8) :
    cutRay a sq dir fwd x = a &&& ~~~ cc dir fwd (rayT' sq dir &&& x) := by
  unfold cutRay cc
  simp only [rayT_eq _ _ hd]
  split
  · rfl
  · simp

/-- `slow4` without the 512-entry ray array (cheap to evaluate in the kernel) -/
def slowFast (sq : Nat) (D1 D2 D3 D4 : Dir) (x : BB) : BB :=
  (rayT' sq D1.d ||| rayT' sq D2.d ||| rayT' sq D3.d ||| rayT' sq D4.d)
    &&& ~~~ cc D1.d D1.fwd (rayT' sq D1.d &&& x) &&& ~~~ cc D2.d D2.fwd (rayT' sq D2.d &&& x)
    &&& ~~~ cc D3.d D3.fwd (rayT' sq D3.d &&& x) &&& ~~~ cc D4.d D4.fwd (rayT' sq D4.d &&& x)

theorem slow4_fast (sq : Nat) (D1 D2 D3 D4 : Dir) (x : BB)
    (hd1 : D1.d < 8) (hd2 : D2.d < 8) (hd3 : D3.d < 8) (hd4 : D4.d < 8) :
    slow4 sq D1 D2 D3 D4 x = slowFast sq D1 D2 D3 D4 x := by
  unfold slow4 slowFast
  simp only [cutRay_eq, rayT_eq, hd1, hd2, hd3, hd4]

theorem part_eq (j : Nat) : ∀ (l a b : List (Nat × Nat)), part j l a b =
    ((l.filter fun e => Nat.mod (Nat.shiftRight e.1 j) 2 != 0).reverse ++ a,
     (l.filter fun e => Nat.mod (Nat.shiftRight e.1 j) 2 == 0).reverse ++ b) := by
  intro l
  induction l with
  | nil => intro a b; rfl
  | cons x t ih =>
    intro a b
    simp only [part]
    split
    · rename_i h
      have h1 : (Nat.mod (Nat.shiftRight x.1 j) 2 != 0) = false := by rw [h]; rfl
      have h2 : (Nat.mod (Nat.shiftRight x.1 j) 2 == 0) = true := by rw [h]; rfl
      rw [ih, List.filter_cons, List.filter_cons, h1, h2]
      simp
    · rename_i m h
      have h1 : (Nat.mod (Nat.shiftRight x.1 j) 2 != 0) = true := by rw [h]; rfl
      have h2 : (Nat.mod (Nat.shiftRight x.1 j) 2 == 0) = false := by rw [h]; rfl
      rw [ih, List.filter_cons, List.filter_cons, h1, h2]
      simp

theorem radix_sound : ∀ (d j : Nat) (l : List (Nat × Nat)), radix d j l = true →
    ∀ e1 ∈ l, ∀ e2 ∈ l, e1.1 = e2.1 → e1.2 = e2.2 := by
  intro d
  induction d with
  | zero =>
    intro j l h e1 h1 e2 h2 _
    cases l with
    | nil => cases h1
    | cons e t =>
      simp only [radix, List.all_eq_true, Bool.and_eq_true] at h
      have key : ∀ x ∈ e :: t, x.2 = e.2 := by
        intro x hx
        rcases List.mem_cons.mp hx with rfl | hx'
        · rfl
        · exact Nat.eq_of_beq_eq_true (h x hx').2
      rw [key e1 h1, key e2 h2]
  | succ d ih =>
    intro j l h e1 h1 e2 h2 heq
    cases l with
    | nil => cases h1
    | cons e t =>
      simp only [radix, part_eq, List.append_nil, Bool.and_eq_true] at h
      -- equal keys have the same bit `j`, so both entries are in the same part
      have hk : Nat.mod (Nat.shiftRight e2.1 j) 2 = Nat.mod (Nat.shiftRight e1.1 j) 2 := by rw [heq]
      by_cases hb : Nat.mod (Nat.shiftRight e1.1 j) 2 = 0
      · exact ih _ _ h.2 e1 (List.mem_reverse.mpr (List.mem_filter.mpr ⟨h1, beq_iff_eq.mpr hb⟩))
          e2 (List.mem_reverse.mpr (List.mem_filter.mpr ⟨h2, beq_iff_eq.mpr (hk.trans hb)⟩)) heq
      · exact ih _ _ h.1 e1 (List.mem_reverse.mpr (List.mem_filter.mpr ⟨h1, bne_iff_ne.mpr hb⟩))
          e2 (List.mem_reverse.mpr (List.mem_filter.mpr ⟨h2, bne_iff_ne.mpr (hk ▸ hb)⟩)) heq

theorem slideOcc_none (o : Nat → Bool) (t : Nat) (d : Int × Int) (fuel : Nat)
    (h : Rules.step t d.1 d.2 = none) : Rules.slideOcc o t d fuel = [] := by
  cases fuel with
  | zero => rfl
  | succ f => simp only [Rules.slideOcc, h]

/-- two occupancies that agree on every ray square having a successor give the same slide -/
theorem slide_agree (o1 o2 : Nat → Bool) (d : Int × Int) : ∀ (fuel sq : Nat),
    (∀ t ∈ Rules.slideOcc (fun _ => false) sq d fuel, (Rules.step t d.1 d.2).isSome = true → o1 t = o2 t) →
    Rules.slideOcc o1 sq d fuel = Rules.slideOcc o2 sq d fuel := by
  intro fuel
  induction fuel with
  | zero => intro sq _; rfl
  | succ f ih =>
    intro sq h
    simp only [Rules.slideOcc] at h ⊢
    cases hs : Rules.step sq d.1 d.2 with
    | none => rfl
    | some t =>
      simp only [hs] at h ⊢
      simp only [Bool.false_eq_true, if_false, List.mem_cons] at h
      cases hs2 : Rules.step t d.1 d.2 with
      | none =>
        rw [slideOcc_none _ _ _ _ hs2, slideOcc_none _ _ _ _ hs2]
        cases o1 t <;> cases o2 t <;> rfl
      | some u =>
        have ht : o1 t = o2 t := h t (Or.inl rfl) (by rw [hs2]; rfl)
        have hrec := ih t (fun x hx => h x (Or.inr hx))
        rw [ht, hrec]

theorem rayOK_sound (c : Cfg) (D o1 o2 o3 : Dir) (h : rayOK c D o1 o2 o3 = true) (occ : BB) :
    D.d < 8 ∧
    (occ &&& rmask c D) ∈ subsOf (bitIndices (rmask c D)) ∧
    (∀ t, t < 64 → (testBit (seg c.sq D (occ &&& rmask c D)) t = true ↔
        t ∈ Rules.slideOcc (fun t => testBit occ t) c.sq D.v 7)) ∧
    cc D.d D.fwd (occ &&& rmask c D) &&& (rayT' c.sq o1.d ||| rayT' c.sq o2.d ||| rayT' c.sq o3.d) = 0 := by
  unfold rayOK at h
  simp only [Bool.and_eq_true, List.all_eq_true, decide_eq_true_eq, beq_iff_eq, Bool.or_eq_true,
    Bool.not_eq_true'] at h
  obtain ⟨⟨⟨hd, hor⟩, hfull⟩, hall⟩ := h
  have hy : (occ &&& rmask c D) ∈ subsOf (bitIndices (rmask c D)) := by
    apply mem_subsOf
    rw [hor, UInt64.and_assoc, UInt64.and_self]
  obtain ⟨⟨⟨⟨hlt, heq⟩, h1⟩, h2⟩, h3⟩ := hall _ hy
  refine ⟨hd, hy, ?_, by rw [and_or_distrib, and_or_distrib, h1, h2, h3]; rfl⟩
  intro t ht
  rw [← heq, testBit_orBits _ hlt t ht]
  have hag : Rules.slideOcc (fun t => testBit (occ &&& rmask c D) t) c.sq D.v 7
      = Rules.slideOcc (fun t => testBit occ t) c.sq D.v 7 := by
    apply slide_agree
    intro u hu hs
    obtain ⟨hu64, hm⟩ := hfull u hu
    rcases hm with hm | hm
    · rw [hs] at hm; cases hm
    · show testBit (occ &&& rmask c D) u = testBit occ u
      rw [testBit_and, hm, Bool.and_true]
  rw [hag]

theorem mem_cross {E L : List (BB × BB)} {e l : BB × BB} (he : e ∈ E) (hl : l ∈ L) :
    (e.1 ||| l.1, e.2 ||| l.2) ∈ cross E L := by
  unfold cross
  exact List.mem_flatMap.mpr ⟨e, he, List.mem_map.mpr ⟨l, hl, rfl⟩⟩

theorem ray_and_eq (c : Cfg) (D : Dir) (x : BB) (hx : x &&& c.mask = x) :
    rayT' c.sq D.d &&& x = x &&& rmask c D := by
  rw [rmask, ← UInt64.and_assoc, hx, UInt64.and_comm]

theorem split4 (x m m1 m2 m3 m4 : BB) (hm : m1 ||| m2 ||| m3 ||| m4 = m) (hx : x &&& m = x) :
    x = x &&& m1 ||| x &&& m2 ||| x &&& m3 ||| x &&& m4 := by
  rw [← and_or_distrib, ← and_or_distrib, ← and_or_distrib, hm, hx]

/-- what `raysOK` establishes -/
structure RaysOK (c : Cfg) : Prop where
  len : (posList (popcount c.mask) c.mask).length ≤ c.bits
  or : orBits (posList (popcount c.mask) c.mask) = c.mask
  hm : rmask c c.D1 ||| rmask c c.D2 ||| rmask c c.D3 ||| rmask c c.D4 = c.mask
  r1 : rayOK c c.D1 c.D2 c.D3 c.D4 = true
  r2 : rayOK c c.D2 c.D1 c.D3 c.D4 = true
  r3 : rayOK c c.D3 c.D1 c.D2 c.D4 = true
  r4 : rayOK c c.D4 c.D1 c.D2 c.D3 = true

theorem raysOK_sound {c : Cfg} (h : raysOK c = true) : RaysOK c := by
  unfold raysOK at h
  simp only [Bool.and_eq_true, decide_eq_true_eq, beq_iff_eq] at h
  obtain ⟨⟨⟨⟨⟨⟨hlen, hor⟩, hm⟩, r1⟩, r2⟩, r3⟩, r4⟩ := h
  exact ⟨hlen, hor, hm, r1, r2, r3, r4⟩

/-- what a ray loses to its blockers lies on no other ray, so cutting the union ray by ray cuts each ray by itself -/
theorem cut_union : ∀ r1 r2 r3 r4 c1 c2 c3 c4 : Bool,
    (c1 && (r2 || r3 || r4)) = false → (c2 && (r1 || r3 || r4)) = false →
    (c3 && (r1 || r2 || r4)) = false → (c4 && (r1 || r2 || r3)) = false →
    ((((r1 || r2 || r3 || r4) && !c1) && !c2) && !c3 && !c4) =
      ((r1 && !c1) || (r2 && !c2) || (r3 && !c3) || (r4 && !c4)) := by
  decide

theorem slow4_split (c : Cfg) (R : RaysOK c) (x : BB) (hx : x &&& c.mask = x) :
    slow4 c.sq c.D1 c.D2 c.D3 c.D4 x =
      seg c.sq c.D1 (x &&& rmask c c.D1) ||| seg c.sq c.D2 (x &&& rmask c c.D2) |||
      seg c.sq c.D3 (x &&& rmask c c.D3) ||| seg c.sq c.D4 (x &&& rmask c c.D4) := by
  obtain ⟨hd1, _, _, h1⟩ := rayOK_sound c _ _ _ _ R.r1 x
  obtain ⟨hd2, _, _, h2⟩ := rayOK_sound c _ _ _ _ R.r2 x
  obtain ⟨hd3, _, _, h3⟩ := rayOK_sound c _ _ _ _ R.r3 x
  obtain ⟨hd4, _, _, h4⟩ := rayOK_sound c _ _ _ _ R.r4 x
  rw [slow4_fast _ _ _ _ _ _ hd1 hd2 hd3 hd4]
  unfold slowFast seg
  simp only [ray_and_eq c _ x hx]
  apply eq_of_testBit; intro i _
  have e1 := congrArg (testBit · i) h1
  have e2 := congrArg (testBit · i) h2
  have e3 := congrArg (testBit · i) h3
  have e4 := congrArg (testBit · i) h4
  simp only [testBit_and, testBit_or, testBit_not, testBit_zero] at *
  exact cut_union _ _ _ _ _ _ _ _ e1 e2 e3 e4

theorem mem_layer (c : Cfg) (D o1 o2 o3 : Dir) (h : rayOK c D o1 o2 o3 = true) (x : BB) :
    (x &&& rmask c D, seg c.sq D (x &&& rmask c D)) ∈ layer c D := by
  obtain ⟨_, hy, _⟩ := rayOK_sound c _ _ _ _ h x
  exact List.mem_map.mpr ⟨_, hy, rfl⟩

theorem mem_pairs (c : Cfg) (R : RaysOK c) (x : BB) (hx : x &&& c.mask = x) :
    (x, slow4 c.sq c.D1 c.D2 c.D3 c.D4 x) ∈ pairs c := by
  have hs := split4 x c.mask _ _ _ _ R.hm hx
  have hv := slow4_split c R x hx
  have := mem_cross (mem_cross (mem_cross (mem_layer c _ _ _ _ R.r1 x) (mem_layer c _ _ _ _ R.r2 x))
    (mem_layer c _ _ _ _ R.r3 x)) (mem_layer c _ _ _ _ R.r4 x)
  simp only at this
  rw [← hs, ← hv] at this
  exact this

/-- the table fill has no destructive collision: what `mainOK` and `packedOK` each establish -/
def NoClash (c : Cfg) : Prop :=
  ∀ x, x &&& c.mask = x → magicIndex x c.magic c.bits < c.size ∧
    ∀ x', x' &&& c.mask = x' → magicIndex x c.magic c.bits = magicIndex x' c.magic c.bits →
      slow4 c.sq c.D1 c.D2 c.D3 c.D4 x = slow4 c.sq c.D1 c.D2 c.D3 c.D4 x'

def toN (e : BB × BB) : Nat × Nat := (e.1.toNat, e.2.toNat)

theorem crossN_map (E L : List (BB × BB)) : crossN (E.map toN) (L.map toN) = (cross E L).map toN := by
  unfold crossN cross
  rw [List.flatMap_map, List.map_flatMap]
  congr 1
  funext e
  rw [List.map_map, List.map_map]
  apply List.map_congr_left
  intro l _
  simp [toN]

theorem keyN_eq (x magic : BB) (bits : Nat) :
    keyN x.toNat magic.toNat ((64 - bits).toUInt64.toNat % 64) = magicIndex x magic bits := by
  unfold keyN magicIndex
  rw [UInt64.toNat_shiftRight, UInt64.toNat_mul]

theorem noClash_of_mainOK {c : Cfg} (R : RaysOK c) (h : mainOK c = true) : NoClash c := by
  unfold mainOK at h
  simp only [forceList_eq, forceNat_eq] at h
  have hl : ∀ D, layerN c D = (layer c D).map toN := fun D => rfl
  simp only [hl, crossN_map, List.map_map, Bool.and_eq_true, List.all_eq_true, decide_eq_true_eq] at h
  obtain ⟨hlt, hr⟩ := h
  -- the list that was tested holds, for every submask, its index with its attack set
  have hmem : ∀ x, x &&& c.mask = x → (magicIndex x c.magic c.bits, (slow4 c.sq c.D1 c.D2 c.D3 c.D4 x).toNat) ∈
      List.map ((fun e => (keyN e.1 c.magic.toNat ((64 - c.bits).toUInt64.toNat % 64), e.2)) ∘ toN) (pairs c) :=
    fun x hx => List.mem_map.mpr ⟨_, mem_pairs c R x hx, by simp only [Function.comp, toN, keyN_eq]⟩
  exact fun x hx => ⟨hlt _ (hmem x hx), fun x' hx' hk =>
    UInt64.toNat_inj.mp (radix_sound _ _ _ hr _ (hmem x hx) _ (hmem x' hx') hk)⟩

/-- after a successful `packedOK` some number holds, in the slot of every submask's index, that submask's attack set -/
theorem packedOK_sound {c : Cfg} (R : RaysOK c) (h : packedOK c = true) :
    ∃ T, ∀ x, x &&& c.mask = x → magicIndex x c.magic c.bits < c.size ∧
      slot T (magicIndex x c.magic c.bits) = (slow4 c.sq c.D1 c.D2 c.D3 c.D4 x).toNat := by
  unfold packedOK at h
  simp only [forceList_eq, forceNat_eq, List.all_eq_true] at h
  generalize foldF _ _ 0 = T at h
  refine ⟨T, fun x hx => ?_⟩
  have hl : ∀ D, layerN c D = (layer c D).map toN := fun D => rfl
  have hA := List.mem_map_of_mem (f := toN) (mem_cross (mem_layer c _ _ _ _ R.r1 x) (mem_layer c _ _ _ _ R.r3 x))
  have hB := List.mem_map_of_mem (f := toN) (mem_cross (mem_layer c _ _ _ _ R.r2 x) (mem_layer c _ _ _ _ R.r4 x))
  rw [← crossN_map, ← hl, ← hl] at hA hB
  have hs := h _ hA _ hB
  have ex : x &&& rmask c c.D1 ||| x &&& rmask c c.D3 ||| (x &&& rmask c c.D2 ||| x &&& rmask c c.D4) = x := by
    conv => rhs; rw [split4 x c.mask _ _ _ _ R.hm hx]
    ac_rfl
  have ea : seg c.sq c.D1 (x &&& rmask c c.D1) ||| seg c.sq c.D3 (x &&& rmask c c.D3) |||
      (seg c.sq c.D2 (x &&& rmask c c.D2) ||| seg c.sq c.D4 (x &&& rmask c c.D4)) =
      slow4 c.sq c.D1 c.D2 c.D3 c.D4 x := by
    rw [slow4_split c R x hx]
    ac_rfl
  have lor : ∀ a b : Nat, Nat.lor a b = a ||| b := fun _ _ => rfl
  simp only [slotOK, forceNat_eq, toN, lor, ← UInt64.toNat_or, ex, ea, keyN_eq, Bool.and_eq_true, Nat.blt_eq] at hs
  exact ⟨hs.1, Nat.eq_of_beq_eq_true hs.2⟩

theorem noClash_of_packedOK {c : Cfg} (R : RaysOK c) (h : packedOK c = true) : NoClash c := by
  obtain ⟨T, hT⟩ := packedOK_sound R h
  exact fun x hx => ⟨(hT x hx).1, fun x' hx' hk =>
    UInt64.toNat_inj.mp ((hT x hx).2.symm.trans (hk ▸ (hT x' hx').2))⟩

theorem and_mask_rmask (c : Cfg) (D : Dir) (occ : BB) :
    (occ &&& c.mask) &&& rmask c D = occ &&& rmask c D := by
  rw [rmask, UInt64.and_assoc, ← UInt64.and_assoc c.mask, UInt64.and_self]

theorem lookup_of_noClash {c : Cfg} (R : RaysOK c) (N : NoClash c) (occ : BB) :
    (fillTable c.size c.bits c.magic c.mask (slow4 c.sq c.D1 c.D2 c.D3 c.D4))[
        magicIndex (occ &&& c.mask) c.magic c.bits]? = some (slow4 c.sq c.D1 c.D2 c.D3 c.D4 (occ &&& c.mask)) := by
  have hxm : (occ &&& c.mask) &&& c.mask = occ &&& c.mask := by
    rw [UInt64.and_assoc, UInt64.and_self]
  -- the masked occupancy is produced by some index of the fill, and every index produces a submask
  obtain ⟨idx, hidx, hbfi⟩ := bfi_surj R.or hxm
  have hsub := bfi_sub R.or
  have hget := Fill.fillTable_get c.size c.bits c.magic c.mask (slow4 c.sq c.D1 c.D2 c.D3 c.D4)
    (fun i _ => (N _ (hsub i)).1)
    (fun i _ j _ hk => (N _ (hsub i)).2 _ (hsub j) hk)
    idx (Nat.lt_of_lt_of_le hidx (Nat.pow_le_pow_right (by omega) R.len))
  rwa [hbfi] at hget

theorem exact_of_raysOK {c : Cfg} (R : RaysOK c) (occ : BB) :
    ∀ t, t < 64 → (testBit (slow4 c.sq c.D1 c.D2 c.D3 c.D4 (occ &&& c.mask)) t = true ↔
      t ∈ [c.D1.v, c.D2.v, c.D3.v, c.D4.v].flatMap fun d => Rules.slideOcc (fun t => testBit occ t) c.sq d 7) := by
  have hxm : (occ &&& c.mask) &&& c.mask = occ &&& c.mask := by
    rw [UInt64.and_assoc, UInt64.and_self]
  intro t ht
  rw [slow4_split c R _ hxm]
  simp only [and_mask_rmask]
  obtain ⟨_, _, x1, _⟩ := rayOK_sound c _ _ _ _ R.r1 occ
  obtain ⟨_, _, x2, _⟩ := rayOK_sound c _ _ _ _ R.r2 occ
  obtain ⟨_, _, x3, _⟩ := rayOK_sound c _ _ _ _ R.r3 occ
  obtain ⟨_, _, x4, _⟩ := rayOK_sound c _ _ _ _ R.r4 occ
  simp only [testBit_or, Bool.or_eq_true, x1 t ht, x2 t ht, x3 t ht, x4 t ht,
    List.flatMap_cons, List.flatMap_nil, List.mem_append, List.append_nil, or_assoc]

theorem sliderOK_sound (c : Cfg) (h : sliderOK c = true) (occ : BB) :
    ∃ a, (fillTable c.size c.bits c.magic c.mask (slow4 c.sq c.D1 c.D2 c.D3 c.D4))[
            magicIndex (occ &&& c.mask) c.magic c.bits]? = some a ∧
      ∀ t, t < 64 → (testBit a t = true ↔
        t ∈ [c.D1.v, c.D2.v, c.D3.v, c.D4.v].flatMap fun d => Rules.slideOcc (fun t => testBit occ t) c.sq d 7) := by
  have h' : (raysOK c && mainOK c) = true := h
  rw [Bool.and_eq_true] at h'
  have R := raysOK_sound h'.1
  exact ⟨_, lookup_of_noClash R (noClash_of_mainOK R h'.2) occ, exact_of_raysOK R occ⟩

theorem sliderPacked_sound {c : Cfg} (h : sliderPacked c = true) : RaysOK c ∧ NoClash c := by
  unfold sliderPacked at h
  rw [Bool.and_eq_true] at h
  exact ⟨raysOK_sound h.1, noClash_of_packedOK (raysOK_sound h.1) h.2⟩

/-- `rookLookup?` / `bishopLookup?` for any configuration -/
def lookup? (c : Cfg) (occ : BB) : Option BB :=
  (fillTable c.size c.bits c.magic c.mask (slow4 c.sq c.D1 c.D2 c.D3 c.D4))[magicIndex (occ &&& c.mask) c.magic c.bits]?

theorem rookLookup?_eq (sq : Nat) (h : sq < 64) (occ : BB) : rookLookup? sq occ = lookup? (rookCfg sq) occ := by
  unfold rookLookup? rookTable rookMaskTable
  simp only [getD_map_range, h, if_true]
  rfl

theorem bishopLookup?_eq (sq : Nat) (h : sq < 64) (occ : BB) : bishopLookup? sq occ = lookup? (bishopCfg sq) occ := by
  unfold bishopLookup? bishopTable bishopMaskTable
  simp only [getD_map_range, h, if_true]
  rfl

theorem lookup?_eq {c : Cfg} (h : sliderPacked c = true) (occ : BB) :
    lookup? c occ = some (slow4 c.sq c.D1 c.D2 c.D3 c.D4 (occ &&& c.mask)) :=
  lookup_of_noClash (sliderPacked_sound h).1 (sliderPacked_sound h).2 occ

/-- the checks of sixteen squares, evaluated together (`SliderChk/Sq*.lean`) -/
def allOK (cfg : Nat → Cfg) (lo : Nat) : Bool := (List.range' lo 16).all fun sq => sliderPacked (cfg sq)

theorem of_allOK {cfg : Nat → Cfg} (h0 : allOK cfg 0 = true) (h1 : allOK cfg 16 = true) (h2 : allOK cfg 32 = true)
    (h3 : allOK cfg 48 = true) (sq : Nat) (hsq : sq < 64) : sliderPacked (cfg sq) = true := by
  have hm : ∀ lo, allOK cfg lo = true → lo ≤ sq → sq < lo + 16 → sliderPacked (cfg sq) = true :=
    fun lo h a b => List.all_eq_true.mp h sq (List.mem_range'_1.mpr ⟨a, b⟩)
  by_cases a : sq < 16
  · exact hm 0 h0 (by omega) (by omega)
  by_cases b : sq < 32
  · exact hm 16 h1 (by omega) (by omega)
  by_cases c : sq < 48
  · exact hm 32 h2 (by omega) (by omega)
  · exact hm 48 h3 (by omega) (by omega)

end RCE.Proofs.SliderCheck
