import RCE.Proofs.SliderChk.Sq00
import RCE.Proofs.SliderChk.Sq16
import RCE.Proofs.SliderChk.Sq32
import RCE.Proofs.SliderChk.Sq48
import RCE.Proofs.Leapers
/-! What C06 and the move-generation proofs use of the sliders: `rook_exact`, `bishop_exact`, `queen_exact` — the
    magic-table lookups are the spec's sliding sets for every square and every occupancy.  The per-square facts are
    established by `SliderCheck.sliderPacked`, kernel-evaluated in `SliderChk/Sq*.lean`; `SliderSound` turns a
    successful check into the statements below. -/
namespace RCE.Proofs.Sliders
open RCE

def occOf (occ : BB) : Nat → Bool := fun t => testBit occ t

/-- the spec's attack set of a slider: for each direction the squares up to and including the first occupied one -/
def specSlider (dirs : List (Int × Int)) (sq : Nat) (occ : BB) : List Nat :=
  dirs.flatMap fun d => Rules.slideOcc (occOf occ) sq d 7

open SliderChk SliderCheck in
theorem rook_all : ∀ sq, sq < 64 → sliderPacked (rookCfg sq) = true := of_allOK rook_0 rook_16 rook_32 rook_48
open SliderChk SliderCheck in
theorem bishop_all : ∀ sq, sq < 64 → sliderPacked (bishopCfg sq) = true := of_allOK bishop_0 bishop_16 bishop_32 bishop_48

open SliderCheck in
theorem exact_of_packed {c : Cfg} (h : sliderPacked c = true) {dirs : List (Int × Int)}
    (hd : dirs.Perm [c.D1.v, c.D2.v, c.D3.v, c.D4.v]) (occ : BB) :
    ∃ a, lookup? c occ = some a ∧ Exact a (specSlider dirs c.sq occ) := by
  refine ⟨_, lookup?_eq h occ, fun t ht => ?_⟩
  rw [exact_of_raysOK (sliderPacked_sound h).1 occ t ht]
  simp only [specSlider, List.mem_flatMap, hd.mem_iff]
  rfl

theorem rook_exact (sq : Nat) (occ : BB) (h : sq < 64) :
    ∃ a, rookLookup? sq occ = some a ∧ Exact a (specSlider Rules.rookDirs sq occ) := by
  rw [SliderCheck.rookLookup?_eq sq h]
  exact exact_of_packed (rook_all sq h) (by decide : Rules.rookDirs.Perm [(0, 1), (1, 0), (0, -1), (-1, 0)]) occ

theorem bishop_exact (sq : Nat) (occ : BB) (h : sq < 64) :
    ∃ a, bishopLookup? sq occ = some a ∧ Exact a (specSlider Rules.bishopDirs sq occ) := by
  rw [SliderCheck.bishopLookup?_eq sq h]
  exact exact_of_packed (bishop_all sq h) (by decide : Rules.bishopDirs.Perm [(-1, 1), (1, 1), (-1, -1), (1, -1)])
    occ

/-- the magic lookup never panics and equals the slow ray walk on the masked occupancy -/
theorem rook_lookup_eq (sq : Nat) (occ : BB) (h : sq < 64) :
    rookLookup? sq occ = some (rookSlow sq (occ &&& rookMask sq)) :=
  (SliderCheck.rookLookup?_eq sq h occ).trans (SliderCheck.lookup?_eq (rook_all sq h) occ)

theorem bishop_lookup_eq (sq : Nat) (occ : BB) (h : sq < 64) :
    bishopLookup? sq occ = some (bishopSlow sq (occ &&& bishopMask sq)) :=
  (SliderCheck.bishopLookup?_eq sq h occ).trans (SliderCheck.lookup?_eq (bishop_all sq h) occ)

/-- `rookSlow` without the 512-entry ray array: a form the kernel evaluates quickly -/
theorem rookSlow_fast (sq : Nat) (x : BB) :
    rookSlow sq x = SliderCheck.slowFast sq (SliderCheck.rookCfg sq).D1 (SliderCheck.rookCfg sq).D2
      (SliderCheck.rookCfg sq).D3 (SliderCheck.rookCfg sq).D4 x :=
  SliderCheck.slow4_fast sq (SliderCheck.rookCfg sq).D1 (SliderCheck.rookCfg sq).D2 (SliderCheck.rookCfg sq).D3
    (SliderCheck.rookCfg sq).D4 x (show dN < 8 by decide) (show dE < 8 by decide) (show dS < 8 by decide)
    (show dW < 8 by decide)

theorem queen_exact (sq : Nat) (occ : BB) (h : sq < 64) :
    Exact (queenAttacks sq occ) (specSlider (Rules.rookDirs ++ Rules.bishopDirs) sq occ) := by
  obtain ⟨a, ha, hea⟩ := rook_exact sq occ h
  obtain ⟨b, hb, heb⟩ := bishop_exact sq occ h
  intro t ht
  unfold queenAttacks rookAttacks bishopAttacks
  rw [ha, hb]
  simp only [Option.getD_some, specSlider, List.flatMap_append, List.mem_append]
  rw [BoardBits.testBit_or, Bool.or_eq_true, hea t ht, heb t ht]
  rfl

end RCE.Proofs.Sliders
