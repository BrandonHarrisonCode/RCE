import RCE.Proofs.TranslatedChk
import RCE.Proofs.SliderSound
import RCE.Proofs.BitScan
/-! The slow ray walks (`Rook::get_attacks_slow`, `Bishop::get_attacks_slow`) as TRANSLATED from the source on this run
    (`RCE.Gen.Tr.rookSlow`, `bishopSlow`: which ray guards each block, which ray is scanned, the scan direction, which ray is cut —
    all read from the Rust text) equal the hand-written model's `rookSlow` / `bishopSlow` for EVERY occupancy, and the index
    handed to `rays[..]` is always a square (the Rust indexing cannot panic).  Here for any four rays (`walk_src`); the rook's
    and the bishop's are `rook_slow_source_eq` / `bishop_slow_source_eq` in `Props/C06src`. -/
namespace RCE.Proofs.SlowSrc
open RCE RCE.Gen RCE.Proofs.SliderCheck

/-- `63 - leading_zeros` as modelled is always below 64 -/
theorem bsr_lt (y : BB) : bsr y < 64 := by
  rw [BitScan.bsr_eq]
  by_cases h : y.toNat = 0
  · rw [h]; decide
  · exact (Nat.log2_lt h).mpr y.toNat_lt

private theorem rayInit_eq (ha : Tr.rayInitAvail = true) (sq dir : Nat) (h : sq < 64) (hd : dir < 8) :
    Tr.rayInit sq dir = rayT sq dir := by
  rw [(RCE.Proofs.TranslatedChk.ray_src_at ha sq dir h hd).1, rayT_eq sq dir hd, rayT', if_pos h]

/-- one block of the translated walk is the model's `cutRay` when guard, scanned ray and cut ray are the same direction -/
theorem cutTr_eq (ha : Tr.rayInitAvail = true) (sq dir : Nat) (hs : sq < 64) (hd : dir < 8) (fwd : Bool) (bl : BB) :
    (∀ a, Tr.cutTr a sq dir dir dir fwd bl = cutRay a sq dir fwd bl) ∧ Tr.cutTrOK sq dir dir fwd bl = true := by
  unfold Tr.cutTr Tr.cutTrOK cutRay
  simp only [rayInit_eq ha sq dir hs hd]
  by_cases hg : (rayT sq dir &&& bl != 0) = true
  · have hne : rayT sq dir &&& bl ≠ 0 := by simpa using hg
    have hi : (if fwd = true then bsf (rayT sq dir &&& bl) else bsr (rayT sq dir &&& bl)) < 64 := by
      cases fwd
      · simpa using bsr_lt _
      · simpa using BitScan.bsf_lt _ hne
    simp only [hg, if_true]
    refine ⟨fun a => ?_, by simpa using hi⟩
    rw [rayInit_eq ha _ dir hi hd]
  · simp only [hg]
    simp

/-- four blocks in a row, each guarding, scanning and cutting its own ray, are `slow4` over those rays -/
theorem walk_src (hr : Tr.rayInitAvail = true) (sq : Nat) (hs : sq < 64) (D1 D2 D3 D4 : Dir)
    (h1 : D1.d < 8) (h2 : D2.d < 8) (h3 : D3.d < 8) (h4 : D4.d < 8) (bl : BB) :
    Tr.cutTr (Tr.cutTr (Tr.cutTr (Tr.cutTr
        (Tr.rayInit sq D1.d ||| Tr.rayInit sq D2.d ||| Tr.rayInit sq D3.d ||| Tr.rayInit sq D4.d)
        sq D1.d D1.d D1.d D1.fwd bl) sq D2.d D2.d D2.d D2.fwd bl) sq D3.d D3.d D3.d D3.fwd bl) sq D4.d D4.d D4.d D4.fwd bl
      = slow4 sq D1 D2 D3 D4 bl ∧
    (Tr.cutTrOK sq D1.d D1.d D1.fwd bl && Tr.cutTrOK sq D2.d D2.d D2.fwd bl && Tr.cutTrOK sq D3.d D3.d D3.fwd bl &&
      Tr.cutTrOK sq D4.d D4.d D4.fwd bl) = true := by
  unfold slow4
  simp only [cutTr_eq hr, rayInit_eq hr, hs, h1, h2, h3, h4, Bool.and_self, and_self]

end RCE.Proofs.SlowSrc

#print axioms RCE.Proofs.SlowSrc.bsr_lt
#print axioms RCE.Proofs.SlowSrc.cutTr_eq
