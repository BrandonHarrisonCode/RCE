import RCE.Model.Attacks
import RCE.Gen.Translated
/-! Kernel-evaluated equalities between the definitions TRANSLATED from the Rust source on this run
    (`RCE/Gen/Translated.lean`, written by `tools/gen_translate.py`) and the hand-written model
    (`RCE/Model/Attacks.lean`), on every square (and direction / colour).  Each statement is guarded by the
    translator's `…Avail` flag: when a function no longer has a shape the translator understands the flag is
    `false`, the statement is trivially true, and the tie for that function is the exhaustive table stream alone.
    `…OK` collects the side conditions under which the Rust arithmetic cannot overflow (debug-build panics). -/
namespace RCE.Proofs.TranslatedChk
open RCE RCE.Gen

theorem knight_src : Tr.knightInitAvail = true →
    (List.range 64).all (fun i => Tr.knightInit i == knightAttacksAt i && Tr.knightInitOK i) = true := by
  decide +kernel

theorem king_src : Tr.kingInitAvail = true →
    (List.range 64).all (fun i => Tr.kingInit i == kingAttacksAt i && Tr.kingInitOK i) = true := by
  decide +kernel

theorem pawn_src : Tr.pawnInitAvail = true →
    [true, false].all (fun w => (List.range 64).all (fun i => Tr.pawnInit w i == pawnAttacks w i && Tr.pawnInitOK w i)) = true := by
  decide +kernel

theorem ray_src : Tr.rayInitAvail = true →
    (List.range 64).all (fun i => (List.range 8).all (fun d => Tr.rayInit i d == ray i d && Tr.rayInitOK i d)) = true := by
  decide +kernel

theorem rook_mask_src : Tr.rookMaskInitAvail = true →
    (List.range 64).all (fun i => Tr.rookMaskInit i == rookMask i && Tr.rookMaskInitOK i) = true := by
  decide +kernel

theorem bishop_mask_src : Tr.bishopMaskInitAvail = true →
    (List.range 64).all (fun i => Tr.bishopMaskInit i == bishopMask i && Tr.bishopMaskInitOK i) = true := by
  decide +kernel

theorem eq_of_all_beq {f g : Nat → BB} {ok : Nat → Bool} {n : Nat}
    (h : (List.range n).all (fun i => f i == g i && ok i) = true) (i : Nat) (hi : i < n) : f i = g i ∧ ok i = true := by
  simpa only [Bool.and_eq_true, beq_iff_eq] using List.all_eq_true.mp h i (List.mem_range.mpr hi)

theorem ray_src_at (ha : Tr.rayInitAvail = true) (i d : Nat) (h : i < 64) (hd : d < 8) :
    Tr.rayInit i d = ray i d ∧ Tr.rayInitOK i d = true :=
  eq_of_all_beq (List.all_eq_true.mp (ray_src ha) i (List.mem_range.mpr h)) d hd

private theorem fileA_val : fileA = (0x0101010101010101 : UInt64) := by decide +kernel
private theorem fileH_val : fileH = (0x8080808080808080 : UInt64) := by decide +kernel
private theorem rank1_val : rank1 = (0x00000000000000ff : UInt64) := by decide +kernel
private theorem rank8_val : rank8 = (0xff00000000000000 : UInt64) := by decide +kernel

theorem shiftEast_src (_ha : Tr.shiftEastAvail = true) (b : BB) (n : Nat) : Tr.shiftEast b n = shiftEast b n := by
  -- written for either value of the regenerated flag: `false` makes the hypothesis absurd, `true` leaves the second branch
  first
  | exact absurd _ha (by decide)
  | (induction n generalizing b with
     | zero => rfl
     | succ n ih =>
       show Tr.shiftEast _ n = shiftEast _ n
       rw [ih]
       try (congr 1 <;> simp [shlChecked, fileA_val]))

theorem shiftWest_src (_ha : Tr.shiftWestAvail = true) (b : BB) (n : Nat) : Tr.shiftWest b n = shiftWest b n := by
  first
  | exact absurd _ha (by decide)
  | (induction n generalizing b with
     | zero => rfl
     | succ n ih =>
       show Tr.shiftWest _ n = shiftWest _ n
       rw [ih]
       try (congr 1 <;> simp [shr, fileH_val]))

theorem trimEdges_src (_ha : Tr.trimEdgesAvail = true) (b : BB) : Tr.trimEdges b = trimEdges b := by
  first
  | rfl
  | (simp only [Tr.trimEdges, trimEdges, rank1_val, rank8_val, fileA_val, fileH_val])

end RCE.Proofs.TranslatedChk
