import RCE.Model.Board
/-! Kernel-checked facts about the regenerated Zobrist table (C05). -/
namespace RCE.Proofs.ZobristTable
open RCE

/-- `l` split on bit `j` onto the accumulators: (bit set, bit clear) -/
def split (j : Nat) : List Nat → List Nat → List Nat → List Nat × List Nat
  | [], a, b => (a, b)
  | x :: t, a, b =>
    match Nat.mod (Nat.shiftRight x j) 2 with
    | 0 => split j t a (x :: b)
    | _ + 1 => split j t (x :: a) b

/-- distinctness by splitting on bits `j`, `j + 1`, … until at most one number is left, looking at `d` bits at most.
    (Comparing all pairs costs the kernel thirty times as much on the 781 words.) -/
def distinct : Nat → Nat → List Nat → Bool
  | _, _, [] => true
  | _, _, [_] => true
  | 0, _, _ :: _ :: _ => false
  | d + 1, j, x :: y :: t =>
    match split j (x :: y :: t) [] [] with
    | (a, b) => distinct d (j + 1) a && distinct d (j + 1) b

theorem split_perm (j : Nat) : ∀ l a b : List Nat, ((split j l a b).1 ++ (split j l a b).2).Perm (l ++ (a ++ b))
  | [], a, b => List.Perm.refl _
  | x :: t, a, b => by
    simp only [split]
    split
    · exact (split_perm j t a (x :: b)).trans ((List.Perm.append_left t List.perm_middle).trans List.perm_middle)
    · exact (split_perm j t (x :: a) b).trans List.perm_middle

theorem split_bit (j : Nat) : ∀ l a b : List Nat,
    (∀ y ∈ (split j l a b).1, y ∈ a ∨ Nat.mod (Nat.shiftRight y j) 2 ≠ 0) ∧
    (∀ y ∈ (split j l a b).2, y ∈ b ∨ Nat.mod (Nat.shiftRight y j) 2 = 0)
  | [], a, b => ⟨fun _ h => .inl h, fun _ h => .inl h⟩
  | x :: t, a, b => by
    simp only [split]
    split
    · rename_i h0
      refine ⟨(split_bit j t a (x :: b)).1, fun y hy => ?_⟩
      rcases (split_bit j t a (x :: b)).2 y hy with h | h
      · rcases List.mem_cons.mp h with rfl | h
        · exact .inr h0
        · exact .inl h
      · exact .inr h
    · rename_i n h1
      refine ⟨fun y hy => ?_, (split_bit j t (x :: a) b).2⟩
      rcases (split_bit j t (x :: a) b).1 y hy with h | h
      · rcases List.mem_cons.mp h with rfl | h
        · exact .inr (by rw [h1]; exact Nat.succ_ne_zero n)
        · exact .inl h
      · exact .inr h

theorem nodup_of_distinct : ∀ (d j : Nat) (l : List Nat), distinct d j l = true → l.Nodup
  | _, _, [], _ => List.nodup_nil
  | _, _, [_], _ => List.nodup_cons.mpr ⟨List.not_mem_nil, List.nodup_nil⟩
  | 0, _, _ :: _ :: _, h => by simp [distinct] at h
  | d + 1, j, x :: y :: t, h => by
    simp only [distinct, Bool.and_eq_true] at h
    have hp := split_perm j (x :: y :: t) [] []
    have hb := split_bit j (x :: y :: t) [] []
    simp only [List.append_nil] at hp
    refine hp.nodup_iff.mp (List.nodup_append.mpr ⟨nodup_of_distinct d _ _ h.1, nodup_of_distinct d _ _ h.2, ?_⟩)
    intro u hu v hv huv
    rcases hb.1 u hu with h1 | h1
    · cases h1
    rcases hb.2 v hv with h2 | h2
    · cases h2
    · exact h1 (huv ▸ h2)

theorem words_distinct : distinct 64 0 Gen.zAllWords = true := by decide +kernel
theorem words_nodup : Gen.zAllWords.Nodup := nodup_of_distinct _ _ _ words_distinct

theorem words_nonzero : ∀ w ∈ Gen.zAllWords, w ≠ 0 := by decide +kernel
theorem words_lt : ∀ w ∈ Gen.zAllWords, w < 2 ^ 64 := by decide +kernel
theorem words_length : Gen.zAllWords.length = 781 := by decide +kernel
theorem pieces_length : Gen.zPiecesL.length = 768 := by decide +kernel
theorem castling_length : Gen.zCastlingL.length = 4 := by decide +kernel
theorem ep_length : Gen.zEnPassantL.length = 8 := by decide +kernel

/-- the word at global index `i` of the table (pieces 0..767, castling 768..771, en passant 772..779,
    side to move 780), as the `UInt64` the engine XORs -/
def word (i : Nat) : UInt64 := (Gen.zAllWords.getD i 0).toUInt64

theorem getD_eq (i : Nat) (hi : i < 781) : ∃ h : i < Gen.zAllWords.length, Gen.zAllWords.getD i 0 = Gen.zAllWords[i] := by
  have hli : i < Gen.zAllWords.length := by rw [words_length]; exact hi
  exact ⟨hli, by simp [List.getD_eq_getElem?_getD, hli]⟩

theorem toUInt64_inj {a b : Nat} (ha : a < 2 ^ 64) (hb : b < 2 ^ 64) (h : a.toUInt64 = b.toUInt64) : a = b := by
  have := congrArg UInt64.toNat h
  simp only [Nat.toUInt64, UInt64.toNat_ofNat'] at this
  rwa [Nat.mod_eq_of_lt ha, Nat.mod_eq_of_lt hb] at this

theorem word_inj {i j : Nat} (hi : i < 781) (hj : j < 781) (h : word i = word j) : i = j := by
  obtain ⟨hli, ei⟩ := getD_eq i hi
  obtain ⟨hlj, ej⟩ := getD_eq j hj
  unfold word at h
  have h1 : Gen.zAllWords.getD i 0 < 2 ^ 64 := by rw [ei]; exact words_lt _ (List.getElem_mem hli)
  have h2 : Gen.zAllWords.getD j 0 < 2 ^ 64 := by rw [ej]; exact words_lt _ (List.getElem_mem hlj)
  exact (List.getD_inj hli hlj words_nodup).mp (toUInt64_inj h1 h2 h)

theorem word_ne_zero {i : Nat} (hi : i < 781) : word i ≠ 0 := by
  obtain ⟨hli, ei⟩ := getD_eq i hi
  unfold word
  have h1 : Gen.zAllWords.getD i 0 < 2 ^ 64 := by rw [ei]; exact words_lt _ (List.getElem_mem hli)
  have h0 : Gen.zAllWords.getD i 0 ≠ 0 := by rw [ei]; exact words_nonzero _ (List.getElem_mem hli)
  intro h
  exact h0 (toUInt64_inj h1 (by decide) (by simpa using h))

theorem getD_left (a b : List Nat) (i : Nat) (h : i < a.length) : (a ++ b).getD i 0 = a.getD i 0 := by
  simp [List.getD_eq_getElem?_getD, List.getElem?_append_left h]

theorem getD_right (a b : List Nat) (i : Nat) (h : a.length ≤ i) : (a ++ b).getD i 0 = b.getD (i - a.length) 0 := by
  simp [List.getD_eq_getElem?_getD, List.getElem?_append_right h]

theorem arr_getD (l : List Nat) (i : Nat) : ((l.map Nat.toUInt64).toArray).getD i 0 = (l.getD i 0).toUInt64 := by
  simp only [Array.getD_eq_getD_getElem?, List.getElem?_toArray, List.getElem?_map, List.getD_eq_getElem?_getD]
  cases l[i]? <;> simp

theorem code_lt (p : Kind) : p.code < 12 := by
  unfold Kind.code Color.idx PK.idx; cases p.color <;> cases p.pk <;> simp

theorem code_inj (p q : Kind) (h : p.code = q.code) : p = q := by
  revert h; unfold Kind.code Color.idx PK.idx
  cases p with | mk pk pc => cases q with | mk qk qc =>
  cases pk <;> cases pc <;> cases qk <;> cases qc <;> simp

theorem zPiece_word (p : Kind) (i : Nat) (hi : i < 64) : zPiece p (Square.ofIdx i) = word (p.code * 64 + i) := by
  unfold zPiece word
  rw [show (Square.ofIdx i).idx = i from Nat.div_add_mod' i 8]
  have hc := code_lt p
  have hk : p.code * 64 + i < Gen.zPiecesL.length := by rw [pieces_length]; omega
  unfold Gen.zPieces Gen.zAllWords
  rw [arr_getD, List.append_assoc, List.append_assoc, getD_left _ _ _ hk]

theorem zCastle_word (j : Nat) (hj : j < 4) : zCastle j = word (768 + j) := by
  unfold zCastle word
  have h1 : Gen.zPiecesL.length ≤ 768 + j := by rw [pieces_length]; omega
  have h2 : 768 + j - Gen.zPiecesL.length < Gen.zCastlingL.length := by rw [pieces_length, castling_length]; omega
  unfold Gen.zCastling Gen.zAllWords
  rw [arr_getD, List.append_assoc, List.append_assoc, getD_right _ _ _ h1, getD_left _ _ _ h2, pieces_length]
  have e : 768 + j - 768 = j := by omega
  rw [e]

theorem zEp_word (f : Nat) (hf : f < 8) : zEp f = word (772 + f) := by
  unfold zEp word
  have h1 : Gen.zPiecesL.length ≤ 772 + f := by rw [pieces_length]; omega
  have h2 : Gen.zCastlingL.length ≤ 772 + f - Gen.zPiecesL.length := by rw [pieces_length, castling_length]; omega
  have h3 : 772 + f - Gen.zPiecesL.length - Gen.zCastlingL.length < Gen.zEnPassantL.length := by
    rw [pieces_length, castling_length, ep_length]; omega
  unfold Gen.zEnPassant Gen.zAllWords
  rw [arr_getD, List.append_assoc, List.append_assoc, getD_right _ _ _ h1, getD_right _ _ _ h2,
    getD_left _ _ _ h3, pieces_length, castling_length]
  have e : 772 + f - 768 - 4 = f := by omega
  rw [e]

theorem zTurn_word : zTurn = word 780 := by
  unfold zTurn word
  have h1 : Gen.zPiecesL.length ≤ 780 := by rw [pieces_length]; omega
  have h2 : Gen.zCastlingL.length ≤ 780 - Gen.zPiecesL.length := by rw [pieces_length, castling_length]; omega
  have h3 : Gen.zEnPassantL.length ≤ 780 - Gen.zPiecesL.length - Gen.zCastlingL.length := by
    rw [pieces_length, castling_length, ep_length]; omega
  unfold Gen.zWhiteTurn Gen.zAllWords
  rw [List.append_assoc, List.append_assoc, getD_right _ _ _ h1, getD_right _ _ _ h2,
    getD_right _ _ _ h3, pieces_length, castling_length, ep_length]
  rfl

/-- the word of an optional component (its table word, or 0 for "absent") determines the component:
    `w` is the accessor, `ix` the global index of its word, `P` the range in which the accessor is meant -/
theorem optWord_inj {α : Type} (w : α → UInt64) (P : α → Prop) (ix : α → Nat)
    (hw : ∀ a, P a → w a = word (ix a) ∧ ix a < 781) (hinj : ∀ a a', ix a = ix a' → a = a')
    (o o' : Option α) (ho : ∀ a, o = some a → P a) (ho' : ∀ a, o' = some a → P a)
    (h : o.elim 0 w = o'.elim 0 w) : o = o' := by
  cases o with
  | none =>
    cases o' with
    | none => rfl
    | some a' =>
      obtain ⟨e, l⟩ := hw a' (ho' a' rfl)
      exact absurd (e ▸ h.symm) (word_ne_zero l)
  | some a =>
    obtain ⟨e, l⟩ := hw a (ho a rfl)
    cases o' with
    | none => exact absurd (e ▸ h) (word_ne_zero l)
    | some a' =>
      obtain ⟨e', l'⟩ := hw a' (ho' a' rfl)
      rw [hinj a a' (word_inj l l' (e ▸ e' ▸ h))]

/-- the same for a component that is on or off -/
theorem boolWord_inj {a a' : Bool} {w : UInt64} (hw : w ≠ 0) (h : (if a then w else 0) = (if a' then w else 0)) :
    a = a' := by
  cases a <;> cases a' <;> simp_all

end RCE.Proofs.ZobristTable
