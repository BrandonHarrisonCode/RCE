import RCE.Proofs.MoveGen
/-! # C01 — legal move generation and check status are exactly the rules of chess

For **every** legal-game position (`Legal b`: well-formed, both kings present, the side that just
moved not in check) the moves the engine offers are, as (from, to, promotion) triples, exactly the
legal moves of the rules spec — same members, no duplicates — and its answer to "is this side in
check" is the spec's.  Builds on C06 (attack sets exact for all occupancies) and C03 (`make_refines`).

`legal_exact` and `mate_stalemate_exact` go through one `make_move`: `Proofs/MoveGen.lean` states them over the one-step
refinement as a hypothesis (`…_of_refines`), and they are instantiated here with C03's proof of it (`make_refines`). -/
namespace RCE.Props.C01
open RCE RCE.Proofs.BoardWF RCE.Proofs.Abs RCE.Proofs.MoveGen

/-- the attacked-square set is exact: a square is in `get_attacked_squares(c)` iff the rules say a piece of the other colour attacks it -/
theorem attacked_exact (b : Board) (hw : WF b) (c : Color) (t : Nat) (ht : t < 64) :
    testBit (b.attackedSquares c) t = Rules.attacked (abs b) t (absColor c.opp) :=
  attacked_exact_pbb b hw.bbs c t ht

/-- check status is exact for both colours -/
theorem inCheck_exact (b : Board) (hw : WF b) (hk : KingsPresent b) (c : Color) :
    b.isInCheck c = Rules.inCheck (abs b) (absColor c) :=
  inCheck_exact' b hw hk c

/-- pseudo-legal generation is exact: same (from, to, promotion) triples as the rules' pseudo-legal moves, each once -/
theorem pseudo_exact (b : Board) (hl : Legal b) :
    (b.allMoves.map absMove).Perm (Rules.pseudoMoves (abs b)) ∧ (b.allMoves.map absMove).Nodup :=
  pseudo_exact_wf b hl.wf

/-- the legal moves offered are exactly the rules' legal moves, with no duplicates -/
theorem legal_exact (b : Board) (hl : Legal b) :
    ((b.legalMoves).1.map absMove).Perm (Rules.legalMoves (abs b)) ∧ ((b.legalMoves).1.map absMove).Nodup :=
  legal_exact_of_refines make_refines b hl

/-- consequently checkmate and stalemate are recognised exactly -/
theorem mate_stalemate_exact (b : Board) (hl : Legal b) :
    (((b.legalMoves).1.isEmpty && b.isInCheck b.turn) = Rules.isCheckmate (abs b)) ∧
    (((b.legalMoves).1.isEmpty && !b.isInCheck b.turn) = Rules.isStalemate (abs b)) :=
  mate_stalemate_exact_of_refines make_refines b hl

/-- `make_move` over a generated move of a legal position keeps the invariant and both kings -/
theorem make_keeps : MakeKeeps := makeKeeps

end RCE.Props.C01

#print axioms RCE.Props.C01.attacked_exact
#print axioms RCE.Props.C01.inCheck_exact
#print axioms RCE.Props.C01.pseudo_exact
#print axioms RCE.Props.C01.legal_exact
#print axioms RCE.Props.C01.mate_stalemate_exact
#print axioms RCE.Props.C01.make_keeps
