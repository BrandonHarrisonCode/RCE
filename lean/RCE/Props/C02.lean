import RCE.Proofs.BoardUndo
/-! # C02 — unmaking a move restores the position exactly

Equality below is structural equality of the whole `Board` value: the fifteen bitboards, side to
move, move number, en-passant file, the undo stack, the repetition record and the key. -/
namespace RCE.Props.C02
open RCE RCE.Proofs.BoardWF RCE.Proofs.BoardUndo

/-- taking back any generated move restores the position exactly -/
theorem unmake_make (b : Board) (m : Ply) (hw : WF b) (hm : m ∈ b.allMoves) :
    (b.makeMove m).unmakeMove? = some b :=
  unmake_make_gen b m hw (RCE.Proofs.BoardGen.gen_of_mem b hw m hm)

/-- the legality probe (make, test, unmake on the live board) leaves the board as it was -/
theorem isLegalMove_pure (b : Board) (m : Ply) (hw : WF b) (hm : m ∈ b.allMoves) :
    (b.isLegalMove m).2 = b :=
  unmakeMove_makeMove b m hw hm

/-- asking for the legal moves does not change the position, and the list is the filter one expects -/
theorem legalMoves_pure (b : Board) (hw : WF b) :
    (b.legalMoves).2 = b ∧ (b.legalMoves).1 = b.legalMovesPure :=
  legalMoves_pure' b hw

/-- stack-disciplined sequences: `n` makes followed by `n` take-backs, nested to any depth -/
theorem nested_make_unmake (b : Board) (ms : List Ply) (hw : WF b)
    (hms : ∀ i (h : i < ms.length), ms[i] ∈ ((ms.take i).foldl Board.makeMove b).allMoves) :
    (List.range ms.length).foldl (fun acc _ => acc.unmakeMove) (ms.foldl Board.makeMove b) = b :=
  (nested_aux ms b hw hms).2

end RCE.Props.C02

#print axioms RCE.Props.C02.unmake_make
#print axioms RCE.Props.C02.isLegalMove_pure
#print axioms RCE.Props.C02.legalMoves_pure
#print axioms RCE.Props.C02.nested_make_unmake
