import RCE.Proofs.Refine
/-! # C03 — game-state bookkeeping follows the rules along any game

`abs b` is the rules position a board stands for (placement, side to move, the four castling rights,
the en-passant file, half-move clock, full-move number); `Rules.apply` is the textbook state
machine (`Spec/Rules.lean`: rights lost exactly when king or rook leaves / the rook is captured on
its corner and never regained, en-passant file exactly after a double step, clock reset on pawn
move or capture else +1, move number +1 after Black).  The refinement is proved for **every** legal
position and **every** legal move, hence by induction for legal move sequences of any length.
(`u16` wrap-around of the two counters is outside the model: they are `Nat`; a game cannot legally
reach 65535.) -/
namespace RCE.Props.C03
open RCE RCE.Proofs.BoardWF RCE.Proofs.Abs RCE.Proofs.Refine

/-- one generated (pseudo-legal) move from a legal-game position: the new board stands for the rules' successor position -/
theorem make_refines (b : Board) (m : Ply) (hl : Legal b) (hm : m ∈ b.allMoves) :
    abs (b.makeMove m) = Rules.apply (abs b) (absMove m) :=
  make_refines' b m hl hm

/-- a legal move leads to a legal-game position again -/
theorem make_legal (b : Board) (m : Ply) (hl : Legal b) (hm : m ∈ b.legalMovesPure) : Legal (b.makeMove m) :=
  by
  open RCE.Proofs.BoardGen RCE.Proofs.BoardMake RCE.Proofs.BoardPBB in
  unfold Board.legalMovesPure at hm
  rw [List.mem_filter] at hm
  obtain ⟨hm, hchk⟩ := hm
  have g := gen_of_mem b hl.wf m hm
  refine ⟨makeMove_wf b m hl.wf g, kingsPresent_make b hl m g, ?_⟩
  rw [makeMove_turn, opp_opp, ← g.shape.color]
  simpa using hchk

theorem legal_is_generated (b : Board) (m : Ply) (hm : m ∈ b.legalMovesPure) : m ∈ b.allMoves := by
  unfold Board.legalMovesPure at hm; exact (List.mem_filter.mp hm).1

/-- a sequence of moves each legal where it is played -/
def LegalSeq : Board → List Ply → Prop
  | _, [] => True
  | b, m :: ms => m ∈ b.legalMovesPure ∧ LegalSeq (b.makeMove m) ms

/-- any legal game, of any length -/
theorem game_refines (b : Board) (ms : List Ply) (hl : Legal b) (hs : LegalSeq b ms) :
    abs (ms.foldl Board.makeMove b) = (ms.map absMove).foldl Rules.apply (abs b) ∧ Legal (ms.foldl Board.makeMove b) := by
  induction ms generalizing b with
  | nil => exact ⟨rfl, hl⟩
  | cons m ms ih =>
    have h1 := make_refines b m hl (legal_is_generated b m hs.1)
    have h2 := make_legal b m hl hs.1
    have := ih (b.makeMove m) h2 hs.2
    simp only [List.foldl_cons, List.map_cons]
    rw [← h1]; exact this

/-- the repetition record is exactly the list of keys of the earlier positions of the game, most recent first -/
theorem repetition_record (b : Board) (ms : List Ply) :
    (ms.foldl Board.makeMove b).posHist =
      ((List.range ms.length).map fun i => ((ms.take i).foldl Board.makeMove b).zkey).reverse ++ b.posHist :=
  by
  induction ms generalizing b with
  | nil => simp
  | cons m ms ih =>
    rw [List.foldl_cons, ih, RCE.Proofs.BoardMake.makeMove_posHist, List.length_cons, List.range_succ_eq_map]
    simp [List.map_map, Function.comp_def]

/-- the start position is a legal-game position (non-vacuity) -/
theorem start_legal : Legal Board.start := by
  open RCE.Proofs in
  refine ⟨BoardKey.start_ok'.2, ⟨?_, ?_, ?_⟩, start_safe⟩
  · exact ⟨⟨0,4⟩, by decide, by decide, by show PBB.start.pieceAt _ = _; decide⟩
  · exact ⟨⟨7,4⟩, by decide, by decide, by show PBB.start.pieceAt _ = _; decide⟩
  · intro s t s1 s2 t1 t2 c hs ht
    obtain ⟨sr, sf⟩ := s
    obtain ⟨tr, tf⟩ := t
    have a := BoardKey.start_kings_fin ⟨sr, s1⟩ ⟨sf, s2⟩
    have b := BoardKey.start_kings_fin ⟨tr, t1⟩ ⟨tf, t2⟩
    cases c
    · rw [a.1 hs, b.1 ht]
    · rw [a.2 hs, b.2 ht]

end RCE.Props.C03

#print axioms RCE.Props.C03.make_refines
#print axioms RCE.Props.C03.make_legal
#print axioms RCE.Props.C03.game_refines
#print axioms RCE.Props.C03.repetition_record
#print axioms RCE.Props.C03.start_legal
