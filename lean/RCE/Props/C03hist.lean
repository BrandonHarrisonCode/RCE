import RCE.Proofs.Perft
/-! # C03, read along the history — the property's own wording

"each of the four castling rights … never regained", "the en-passant file (present exactly on the ply after a double
pawn push)": corollaries of `game_refines` and of the rules spec's `apply`, stated over the model's games. -/
namespace RCE.Props.C03
open RCE RCE.Proofs.BoardWF RCE.Proofs.Abs

/-- along any legal game a castling right that is off stays off -/
theorem rights_never_regained (b : Board) (ms : List Ply) (hl : Legal b) (hs : LegalSeq b ms) :
    let p := abs b; let q := abs (ms.foldl Board.makeMove b)
    (q.wk = true → p.wk = true) ∧ (q.wq = true → p.wq = true) ∧ (q.bk = true → p.bk = true) ∧ (q.bq = true → p.bq = true) :=
  RCE.Proofs.Perft.rights_never_regained b ms hl hs

/-- rules level (`Proofs.Perft.ep_iff_double_push`): after a move from an occupied square the en-passant file is set exactly when a pawn made a double step, and it is that pawn's file -/
theorem ep_iff_double_push (p : Rules.Pos) (m : Rules.Move) (f : Nat) (hsrc : p.at m.src ≠ none) :
    (Rules.apply p m).ep = some f ↔
      ∃ pc, p.at m.src = some pc ∧ pc.kind = .pawn ∧ (m.dst = m.src + 16 ∨ m.dst + 16 = m.src) ∧ f = m.src % 8 :=
  RCE.Proofs.Perft.ep_iff_double_push p m f hsrc

/-- model level (`Proofs.Perft.ep_only_after_double_push` is the rules-level statement): an en-passant file after a legal
    move means a pawn just made a double step on that file -/
theorem ep_only_after_double_push (b : Board) (m : Ply) (hl : Legal b) (hm : m ∈ b.legalMovesPure) (f : Nat) :
    (b.makeMove m).ep = some f →
      ∃ pc, (abs b).at m.start.idx = some pc ∧ pc.kind = .pawn ∧
        (m.dest.idx = m.start.idx + 16 ∨ m.dest.idx + 16 = m.start.idx) ∧ f = m.start.idx % 8 := by
  intro h
  have hg := legal_is_generated b m hm
  have hep : (Rules.apply (abs b) (absMove m)).ep = some f := by rw [← make_refines b m hl hg]; exact h
  rcases RCE.Proofs.Perft.ep_only_after_double_push' (abs b) (absMove m) f hep with hn | hp
  · -- no piece on the source square: impossible, a generated move starts on its own piece
    have g := RCE.Proofs.BoardGen.gen_of_mem b hl.wf m hg
    have hn1 : (abs b).at m.start.idx = none := hn.1
    rw [RCE.Proofs.MoveGen.abs_at_some b g.irs g.shape.piece] at hn1
    cases hn1
  · exact hp

end RCE.Props.C03

#print axioms RCE.Props.C03.rights_never_regained
#print axioms RCE.Props.C03.ep_iff_double_push
#print axioms RCE.Props.C03.ep_only_after_double_push
