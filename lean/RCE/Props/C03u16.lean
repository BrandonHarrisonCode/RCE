import RCE.Props.C03hist
import RCE.Proofs.FenPlayed
/-! # C03 — the two counters and the engine's `u16`

The engine keeps the half-move clock and the full-move number in `u16`; the model counts in `Nat`.  The two agree as
long as no `u16` addition wraps.  This is the statement that bounds when that can happen: along ANY sequence of moves
(legal or not) each counter grows by at most one per move, so at every point of a game of `n` moves from a position
with counters `h`, `f` both are below `2^16` provided `h + n` and `f + n` are; in particular throughout any game from
the start position shorter than 65,535 plies.  (What happens beyond — a FEN with move number 65535 and Black to move —
is outside the model and outside what C03 / C07 claim; see DESIGN §10.) -/
namespace RCE.Props.C03
open RCE RCE.Proofs.FenPlayed

theorem counters_fit_u16 (b : Board) (ms : List Ply) (hh : b.halfmove + ms.length < 65536) (hf : b.fullmove + ms.length < 65536)
    (k : Nat) : ((ms.take k).foldl Board.makeMove b).halfmove < 65536 ∧ ((ms.take k).foldl Board.makeMove b).fullmove < 65536 := by
  have h := game_counters b (ms.take k)
  have hk : (ms.take k).length ≤ ms.length := by rw [List.length_take]; omega
  omega

theorem counters_fit_u16_from_start (ms : List Ply) (hlen : ms.length < 65535) (k : Nat) :
    ((ms.take k).foldl Board.makeMove Board.start).halfmove < 65536 ∧ ((ms.take k).foldl Board.makeMove Board.start).fullmove < 65536 :=
  counters_fit_u16 Board.start ms (by rw [start_halfmove]; omega) (by rw [start_fullmove]; omega) k

end RCE.Props.C03

#print axioms RCE.Props.C03.counters_fit_u16
#print axioms RCE.Props.C03.counters_fit_u16_from_start
