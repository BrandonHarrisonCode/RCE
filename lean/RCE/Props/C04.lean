import RCE.Proofs.BoardKey
/-! # C04 — the position key is a function of the position, however it was reached

`scratchKey` is the from-scratch key (`impl From<&Board> for ZKey`); `zkey` is the incrementally
maintained field.  All statements are for **every** well-formed board and **every** generated move;
the induction over arbitrary make / unmake sequences is `key_ok_run`. -/
namespace RCE.Props.C04
open RCE RCE.Proofs.BoardWF RCE.Proofs.BoardKey

/-- making any generated move keeps "incremental key = from-scratch key" (and well-formedness) -/
theorem key_incremental (b : Board) (m : Ply) (hw : WF b) (hk : b.zkey = b.scratchKey) (hm : m ∈ b.allMoves) :
    (b.makeMove m).zkey = (b.makeMove m).scratchKey ∧ WF (b.makeMove m) :=
  RCE.Proofs.BoardMake.makeMove_ok b m hw hk hm

/-- the from-scratch key reads nothing but placement, castling rights, en-passant file and side to move:
    two boards that agree on those have the same key, whatever their histories, clocks, counters -/
theorem scratchKey_position_only (b b' : Board)
    (hp : ∀ i, i < 64 → b.pieceAt (Square.ofIdx i) = b'.pieceAt (Square.ofIdx i))
    (hr : b.rights = b'.rights) (he : b.ep = b'.ep) (ht : b.turn = b'.turn) :
    b.scratchKey = b'.scratchKey :=
  scratchKey_congr b b' hp hr he ht

/-- hence two games arriving at the same position have the same *incremental* key -/
theorem transposition_same_key (b b' : Board) (hk : b.zkey = b.scratchKey) (hk' : b'.zkey = b'.scratchKey)
    (hp : ∀ i, i < 64 → b.pieceAt (Square.ofIdx i) = b'.pieceAt (Square.ofIdx i))
    (hr : b.rights = b'.rights) (he : b.ep = b'.ep) (ht : b.turn = b'.turn) :
    b.zkey = b'.zkey := by
  rw [hk, hk']; exact scratchKey_congr b b' hp hr he ht

/-- a position loaded from FEN carries its from-scratch key -/
theorem fromFen_key (s : List Char) (b : Board) (h : Board.fromFen? s = some b) : b.zkey = b.scratchKey :=
  fromFen_keyOk s b h

/-- the start position carries its from-scratch key and is well-formed (non-vacuity of the hypotheses) -/
theorem start_ok : Board.start.zkey = Board.start.scratchKey ∧ WF Board.start := start_ok'

/-- after every make and every unmake of any interleaving, incremental = from-scratch -/
theorem key_ok_run (b : Board) (ops : List Op) (b' : Board) (d : Nat) (hw : WF b) (hk : b.zkey = b.scratchKey)
    (h : run b 0 ops = some (b', d)) : b'.zkey = b'.scratchKey :=
  have ⟨stk', hc⟩ := run_chain ops [] b b' d ⟨hw, hk⟩ h
  (chain_ok stk' b' hc).2

end RCE.Props.C04

#print axioms RCE.Props.C04.key_incremental
#print axioms RCE.Props.C04.scratchKey_position_only
#print axioms RCE.Props.C04.transposition_same_key
#print axioms RCE.Props.C04.fromFen_key
#print axioms RCE.Props.C04.start_ok
#print axioms RCE.Props.C04.key_ok_run
