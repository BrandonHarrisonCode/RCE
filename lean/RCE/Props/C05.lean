import RCE.Proofs.KeyParts
import RCE.Proofs.ZobristTable
/-! # C05 — different positions get different keys

The full statement ("any two distinct positions have different 64-bit keys") is **false for any
64-bit key by counting** (there are far more than 2^64 positions); it is kept visible as
`C05_statement` and is *not* claimed.  What is proved, over the Zobrist table regenerated from the
implementation on every run and for **all** positions: every component that matters for play is
hashed, and hashed with its own word — two positions that differ in exactly one component (the
content of one square, the side to move, one castling right, the en-passant file) have different
keys.  The table part of the proof is a kernel evaluation: all 781 words non-zero and pairwise
distinct. -/
namespace RCE.Props.C05
open RCE RCE.Proofs.ZobristTable RCE.Proofs.KeyParts
attribute [local irreducible] zPiece zCastle zEp zTurn

/-- the unprovable full statement, for the record -/
def C05_statement : Prop :=
  ∀ pa pa' r r' ep ep' t t', (pa, r, ep, t) ≠ (pa', r', ep', t') → keyOfParts pa r ep t ≠ keyOfParts pa' r' ep' t'

/-- the key the model computes from scratch is `keyOfParts` of the board's components -/
theorem scratchKey_is_keyOfParts (b : Board) :
    b.scratchKey = keyOfParts (fun i => b.pieceAt (Square.ofIdx i)) b.rights b.ep b.turn := scratchKey_eq b

/-- changing the content of exactly one square changes the key -/
theorem single_square (pa pa' : Nat → Option Kind) (r : Rights) (ep : Option Nat) (t : Color) (sq : Nat)
    (hsq : sq < 64) (hsame : ∀ i, i ≠ sq → pa i = pa' i) (hdiff : pa sq ≠ pa' sq) :
    keyOfParts pa r ep t ≠ keyOfParts pa' r ep t := by
  intro h
  unfold keyOfParts at h
  rw [UInt64.xor_left_inj, UInt64.xor_left_inj, UInt64.xor_left_inj] at h
  have hs := xorSum_single (sqWord pa) (sqWord pa') sq (List.range 64) List.nodup_range
    (by intro i _ hi; unfold sqWord; rw [hsame i hi])
  rw [h, UInt64.xor_self, if_pos (List.mem_range.mpr hsq)] at hs
  -- the two contributions of square `sq` are equal, so the contents are
  refine hdiff (optWord_inj (fun p => zPiece p (Square.ofIdx sq)) (fun _ => True) (fun p => p.code * 64 + sq)
    (fun p _ => ⟨zPiece_word p sq hsq, by have := code_lt p; omega⟩) (fun p q e => code_inj p q (by omega))
    _ _ (fun _ _ => trivial) (fun _ _ => trivial) ?_)
  have e : ∀ f : Nat → Option Kind, sqWord f sq = (f sq).elim 0 fun p => zPiece p (Square.ofIdx sq) := by
    intro f; unfold sqWord; cases f sq <;> rfl
  rw [← e, ← e, ← UInt64.xor_left_inj (sqWord pa' sq), ← hs, UInt64.xor_self]

/-- the side to move is hashed -/
theorem single_turn (pa : Nat → Option Kind) (r : Rights) (ep : Option Nat) (t : Color) :
    keyOfParts pa r ep t ≠ keyOfParts pa r ep t.opp := by
  intro h
  unfold keyOfParts at h
  rw [UInt64.xor_right_inj] at h
  have := boolWord_inj (zTurn_word ▸ word_ne_zero (by omega : 780 < 781)) h
  cases t <;> cases this

/-- the en-passant file is hashed, each file with its own word -/
theorem single_ep (pa : Nat → Option Kind) (r : Rights) (ep ep' : Option Nat) (t : Color)
    (hv : ∀ f, ep = some f → f < 8) (hv' : ∀ f, ep' = some f → f < 8) (hne : ep ≠ ep') :
    keyOfParts pa r ep t ≠ keyOfParts pa r ep' t := by
  intro h
  unfold keyOfParts at h
  rw [UInt64.xor_left_inj, UInt64.xor_right_inj] at h
  refine hne (optWord_inj zEp (· < 8) (772 + ·) (fun f hf => ⟨zEp_word f hf, by omega⟩) (fun f g e => by omega)
    _ _ hv hv' ?_)
  have e : ∀ o : Option Nat, epWord o = o.elim 0 zEp := by intro o; cases o <;> rfl
  rw [← e, ← e]; exact h

theorem one_diff : ∀ a a' b b' c c' d d' : Bool,
    (a != a').toNat + (b != b').toNat + (c != c').toNat + (d != d').toNat = 1 →
    (a ≠ a' → b = b' ∧ c = c' ∧ d = d') ∧ (a = a' → b ≠ b' → c = c' ∧ d = d') ∧
    (a = a' → b = b' → c ≠ c' → d = d') ∧ (a = a' → b = b' → c = c' → d ≠ d') := by decide

/-- each castling right is hashed with its own word: flipping exactly one of the four changes the key -/
theorem single_right (pa : Nat → Option Kind) (r r' : Rights) (ep : Option Nat) (t : Color)
    (hone : (r.wk != r'.wk).toNat + (r.wq != r'.wq).toNat + (r.bk != r'.bk).toNat + (r.bq != r'.bq).toNat = 1) :
    keyOfParts pa r ep t ≠ keyOfParts pa r' ep t := by
  intro h
  unfold keyOfParts at h
  rw [UInt64.xor_left_inj, UInt64.xor_left_inj, UInt64.xor_right_inj] at h
  have n : ∀ j, j < 4 → zCastle j ≠ 0 := fun j hj => zCastle_word j hj ▸ word_ne_zero (by omega)
  obtain ⟨a, b, c, d⟩ := r
  obtain ⟨a', b', c', d'⟩ := r'
  unfold rightsWord at h
  simp only at hone h
  obtain ⟨o1, o2, o3, o4⟩ := one_diff a a' b b' c c' d d' hone
  -- three of the four summands agree and cancel; the fourth decides its right
  by_cases ha : a = a'
  · by_cases hb : b = b'
    · by_cases hc : c = c'
      · subst ha hb hc
        rw [UInt64.xor_right_inj] at h
        exact o4 rfl rfl rfl (boolWord_inj (n 3 (by omega)) h)
      · have hd := o3 ha hb hc
        subst ha hb hd
        rw [UInt64.xor_left_inj, UInt64.xor_right_inj] at h
        exact hc (boolWord_inj (n 2 (by omega)) h)
    · obtain ⟨hc, hd⟩ := o2 ha hb
      subst ha hc hd
      rw [UInt64.xor_left_inj, UInt64.xor_left_inj, UInt64.xor_right_inj] at h
      exact hb (boolWord_inj (n 1 (by omega)) h)
  · obtain ⟨hb, hc, hd⟩ := o1 ha
    subst hb hc hd
    rw [UInt64.xor_left_inj, UInt64.xor_left_inj, UInt64.xor_left_inj] at h
    exact ha (boolWord_inj (n 0 (by omega)) h)


/-- non-vacuity: removing the e2 pawn from the start position changes the model's key -/
example : Board.start.scratchKey ≠ (Board.start.removePiece ⟨1, 4⟩ ⟨.pawn, .white⟩).scratchKey := by decide +kernel

end RCE.Props.C05

#print axioms RCE.Props.C05.scratchKey_is_keyOfParts
#print axioms RCE.Props.C05.single_square
#print axioms RCE.Props.C05.single_turn
#print axioms RCE.Props.C05.single_ep
#print axioms RCE.Props.C05.single_right
