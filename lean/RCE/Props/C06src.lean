import RCE.Props.C06
import RCE.Proofs.SlowSrc
/-! # C06, stated about definitions TRANSLATED FROM THE SOURCE on this run

`tools/gen_translate.py` turns the Rust expressions of `Knight/King/Pawn::init_attacks`, `init_rays`,
`Bitboard::shift_east/shift_west/trim_edges`, `Rook/Bishop::init_masks` into `RCE.Gen.Tr.*` (operator meanings
taken from the `impl`s in `bitboard.rs`, which it checks).  The theorems below are about those regenerated
definitions: the leaper tables the *source text* computes are exact for all 64 squares (both colours for pawns)
and none of the Rust arithmetic in them can overflow; the ray table and the slider masks the source computes are
the model's (on which `rook/bishop/queen_attacks_exact` rest).  Hypothesis `…Avail = true`: the translator
understood the function's shape on this run (recorded in the evidence; `false` only after a rewrite). -/
namespace RCE.Props.C06
open RCE RCE.Gen RCE.Proofs.Sliders RCE.Proofs.TranslatedChk

/-- the knight table the source computes is exact on every square, and its arithmetic cannot overflow -/
theorem knight_source_exact (ha : Tr.knightInitAvail = true) (sq : Nat) (h : sq < 64) :
    Exact (Tr.knightInit sq) (Rules.knightOff.filterMap fun d => Rules.step sq d.1 d.2) ∧ Tr.knightInitOK sq = true :=
  have e := eq_of_all_beq (knight_src ha) sq h
  ⟨e.1 ▸ knightAt_exact sq h, e.2⟩

theorem king_source_exact (ha : Tr.kingInitAvail = true) (sq : Nat) (h : sq < 64) :
    Exact (Tr.kingInit sq) (Rules.kingOff.filterMap fun d => Rules.step sq d.1 d.2) ∧ Tr.kingInitOK sq = true :=
  have e := eq_of_all_beq (king_src ha) sq h
  ⟨e.1 ▸ kingAt_exact sq h, e.2⟩

theorem pawn_source_exact (ha : Tr.pawnInitAvail = true) (white : Bool) (sq : Nat) (h : sq < 64) :
    Exact (Tr.pawnInit white sq)
      ([(1, Rules.pawnDir (if white then .white else .black)), (-1, Rules.pawnDir (if white then .white else .black))].filterMap
        fun d => Rules.step sq d.1 d.2) ∧ Tr.pawnInitOK white sq = true :=
  have e := eq_of_all_beq (List.all_eq_true.mp (pawn_src ha) white (by cases white <;> simp)) sq h
  ⟨e.1 ▸ pawn_attacks_exact white sq h, e.2⟩

/-- the ray table the source computes is the model's, entry by entry, without overflow -/
theorem ray_source_eq (ha : Tr.rayInitAvail = true) (sq dir : Nat) (h : sq < 64) (hd : dir < 8) :
    Tr.rayInit sq dir = ray sq dir ∧ Tr.rayInitOK sq dir = true :=
  ray_src_at ha sq dir h hd

theorem rook_mask_source_eq (ha : Tr.rookMaskInitAvail = true) (sq : Nat) (h : sq < 64) :
    Tr.rookMaskInit sq = rookMask sq :=
  (eq_of_all_beq (rook_mask_src ha) sq h).1

theorem bishop_mask_source_eq (ha : Tr.bishopMaskInitAvail = true) (sq : Nat) (h : sq < 64) :
    Tr.bishopMaskInit sq = bishopMask sq :=
  (eq_of_all_beq (bishop_mask_src ha) sq h).1

/-- the slow rook walk the source text describes (which ray guards, which is scanned, scan direction, which is cut) is the model's,
    for every square and EVERY occupancy, and the square index it hands to the ray table is always on the board -/
theorem rook_slow_source_eq (ha : Tr.rookSlowAvail = true) (hr : Tr.rayInitAvail = true) (sq : Nat) (h : sq < 64) (occ : BB) :
    Tr.rookSlow sq occ = rookSlow sq occ ∧ Tr.rookSlowOK sq occ = true := by
  -- written for either value of the regenerated flag: `false` makes the hypothesis absurd, `true` leaves the second branch
  first
  | exact absurd ha (by decide)
  | exact Proofs.SlowSrc.walk_src hr sq h (Proofs.SliderCheck.rookCfg sq).D1 (Proofs.SliderCheck.rookCfg sq).D2
      (Proofs.SliderCheck.rookCfg sq).D3 (Proofs.SliderCheck.rookCfg sq).D4 (by decide : dN < 8) (by decide : dE < 8)
      (by decide : dS < 8) (by decide : dW < 8) occ

theorem bishop_slow_source_eq (ha : Tr.bishopSlowAvail = true) (hr : Tr.rayInitAvail = true) (sq : Nat) (h : sq < 64) (occ : BB) :
    Tr.bishopSlow sq occ = bishopSlow sq occ ∧ Tr.bishopSlowOK sq occ = true := by
  first
  | exact absurd ha (by decide)
  | exact Proofs.SlowSrc.walk_src hr sq h (Proofs.SliderCheck.bishopCfg sq).D1 (Proofs.SliderCheck.bishopCfg sq).D2
      (Proofs.SliderCheck.bishopCfg sq).D3 (Proofs.SliderCheck.bishopCfg sq).D4 (by decide : dNW < 8) (by decide : dNE < 8)
      (by decide : dSW < 8) (by decide : dSE < 8) occ

/-- `Bitboard::shift_east / shift_west / trim_edges` as the source text defines them are the model's, for every board (and count) -/
theorem shift_east_source_eq (ha : Tr.shiftEastAvail = true) (b : BB) (n : Nat) : Tr.shiftEast b n = shiftEast b n :=
  RCE.Proofs.TranslatedChk.shiftEast_src ha b n
theorem shift_west_source_eq (ha : Tr.shiftWestAvail = true) (b : BB) (n : Nat) : Tr.shiftWest b n = shiftWest b n :=
  RCE.Proofs.TranslatedChk.shiftWest_src ha b n
theorem trim_edges_source_eq (ha : Tr.trimEdgesAvail = true) (b : BB) : Tr.trimEdges b = trimEdges b :=
  RCE.Proofs.TranslatedChk.trimEdges_src ha b

/-- the magic table of a square filled from the TRANSLATED slow walk over the TRANSLATED mask (with the regenerated magic and
    index width) is the model's table for that square — so `rook_attacks_exact` / `bishop_attacks_exact` speak about tables whose
    contents come from the source text; what remains hand-modelled on the slider path is `get_blockers_from_index`, the magic
    index arithmetic, the fill loop and the lookup -/
theorem rook_fill_source_eq (ha : Tr.rookSlowAvail = true) (hr : Tr.rayInitAvail = true) (hm : Tr.rookMaskInitAvail = true)
    (sq : Nat) (h : sq < 64) :
    fillTable rookTableSize (rookBitsAt sq) (rookMagic sq) (Tr.rookMaskInit sq) (Tr.rookSlow sq)
      = fillTable rookTableSize (rookBitsAt sq) (rookMagic sq) (rookMask sq) (rookSlow sq) := by
  have h1 : Tr.rookSlow sq = rookSlow sq := funext fun bl => (rook_slow_source_eq ha hr sq h bl).1
  rw [rook_mask_source_eq hm sq h, h1]

theorem bishop_fill_source_eq (ha : Tr.bishopSlowAvail = true) (hr : Tr.rayInitAvail = true) (hm : Tr.bishopMaskInitAvail = true)
    (sq : Nat) (h : sq < 64) :
    fillTable bishopTableSize (bishopBitsAt sq) (bishopMagic sq) (Tr.bishopMaskInit sq) (Tr.bishopSlow sq)
      = fillTable bishopTableSize (bishopBitsAt sq) (bishopMagic sq) (bishopMask sq) (bishopSlow sq) := by
  have h1 : Tr.bishopSlow sq = bishopSlow sq := funext fun bl => (bishop_slow_source_eq ha hr sq h bl).1
  rw [bishop_mask_source_eq hm sq h, h1]

end RCE.Props.C06

#print axioms RCE.Props.C06.knight_source_exact
#print axioms RCE.Props.C06.king_source_exact
#print axioms RCE.Props.C06.pawn_source_exact
#print axioms RCE.Props.C06.ray_source_eq
#print axioms RCE.Props.C06.rook_mask_source_eq
#print axioms RCE.Props.C06.bishop_mask_source_eq
#print axioms RCE.Props.C06.rook_slow_source_eq
#print axioms RCE.Props.C06.bishop_slow_source_eq
#print axioms RCE.Props.C06.shift_east_source_eq
#print axioms RCE.Props.C06.shift_west_source_eq
#print axioms RCE.Props.C06.trim_edges_source_eq
#print axioms RCE.Props.C06.rook_fill_source_eq
#print axioms RCE.Props.C06.bishop_fill_source_eq
