import RCE.Proofs.FenRoundtrip
/-! # C07 — loading a FEN yields exactly the position the FEN describes

`Rules.render` writes a rules position as FEN text (`Spec/FenRender.lean`: ranks 8→1, run-length
digits, side, castling letters, en-passant square, two counters).  For **every** valid position the
engine's reader (`Board.fromFen?`, the model of `Board::from_fen`) accepts that text and the loaded
board stands for exactly that position; the loaded board is well-formed with a consistent key, so by
C02 / C03 / C04 it behaves from then on like the same position reached by play. -/
namespace RCE.Props.C07
open RCE RCE.Proofs.BoardWF RCE.Proofs.Abs RCE.Proofs.FenRoundtrip

/-- 6-field FEN: placement, side, castling rights, en-passant file, half-move clock, full-move number -/
theorem fen_roundtrip (p : Rules.Pos) (hv : ValidPos p) :
    ∃ b, Board.fromFen? (Rules.render p) = some b ∧ abs b = p :=
  ⟨_, load6 p hv, abs_loaded p hv.size p.half p.full⟩

/-- 4-field FEN: the counters default to 0 and 1 -/
theorem fen_roundtrip4 (p : Rules.Pos) (hv : ValidPos p) :
    ∃ b, Board.fromFen? (render4 p) = some b ∧ abs b = { p with half := 0, full := 1 } :=
  ⟨_, load4 p hv, abs_loaded p hv.size 0 1⟩

/-- a loaded board is well-formed and carries its from-scratch key, provided the described position is consistent
    (rooks on the corners of the rights claimed, the en-passant pawn in place) -/
theorem fromFen_wf (p : Rules.Pos) (hv : ValidPos p) (hc : ConsistentPos p) (b : Board)
    (h : Board.fromFen? (Rules.render p) = some b) : WF b ∧ b.zkey = b.scratchKey := by
  refine ⟨?_, RCE.Proofs.BoardKey.fromFen_keyOk _ b h⟩
  rw [load6 p hv] at h
  cases h
  exact loaded_wf p hc hv _ _

/-- the start position's FEN loads to the start position (non-vacuity; kernel-evaluated) -/
theorem start_fen : ∃ b, Board.fromFen? "rnbqkbnr/pppppppp/8/8/8/8/PPPPPPPP/RNBQKBNR w KQkq - 0 1".toList = some b ∧
    b.bbs = Board.start.bbs ∧ b.turn = .white ∧ b.rights = Rights.all ∧ b.ep = none := by
  have hs : splitWs "rnbqkbnr/pppppppp/8/8/8/8/PPPPPPPP/RNBQKBNR w KQkq - 0 1".toList =
      "rnbqkbnr/pppppppp/8/8/8/8/PPPPPPPP/RNBQKBNR".toList :: ['w'] :: ['K','Q','k','q'] :: ['-'] :: [['0'], ['1']] := by
    decide +kernel
  have h0 : placementAux "rnbqkbnr/pppppppp/8/8/8/8/PPPPPPPP/RNBQKBNR".toList 0 PBB.empty = some startRaw := by
    decide +kernel
  exact ⟨_, fromFen_some _ _ _ _ _ _ hs startRaw h0 .white (by decide) Rights.all (by decide) none (by decide)
    0 (by decide) 1 (by decide), rfl, rfl, rfl, rfl⟩

end RCE.Props.C07

#print axioms RCE.Props.C07.fen_roundtrip
#print axioms RCE.Props.C07.fen_roundtrip4
#print axioms RCE.Props.C07.fromFen_wf
#print axioms RCE.Props.C07.start_fen
