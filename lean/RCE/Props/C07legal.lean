import RCE.Props.C07
import RCE.Props.C01
import RCE.Proofs.FenPlayed
/-! # C07, continued — a FEN of a legal-game position loads to a legal-game position

`C07.fen_roundtrip` / `fromFen_wf` give a well-formed board standing for the described position; with both
kings on the board and the side not to move not in check the loaded board is a `Legal` position, which is
the hypothesis of C01 / C02 / C03 / C04 — so those theorems apply to positions set up by FEN, not only to
positions reached by play from the start position. -/
namespace RCE.Props.C07
open RCE RCE.Proofs.BoardWF RCE.Proofs.Abs RCE.Proofs.FenRoundtrip

/-- each side has exactly one king in the rules position -/
def SpecKings (p : Rules.Pos) : Prop :=
  (∃ s, s < 64 ∧ p.at s = some ⟨.white, .king⟩) ∧ (∃ s, s < 64 ∧ p.at s = some ⟨.black, .king⟩) ∧
  (∀ s t c, s < 64 → t < 64 → p.at s = some ⟨c, .king⟩ → p.at t = some ⟨c, .king⟩ → s = t)

/-- a position given as FEN — valid, consistent, both kings on the board, the side that is not to move not in check —
    loads to a legal-game position standing for exactly that position; so C01 / C02 / C03 / C04 apply from then on -/
theorem fromFen_legal (p : Rules.Pos) (hv : ValidPos p) (hc : ConsistentPos p) (hk : SpecKings p)
    (hs : Rules.inCheck p p.turn.opp = false) :
    ∃ b, Board.fromFen? (Rules.render p) = some b ∧ abs b = p ∧ Legal b := by
  obtain ⟨b, hb, ha⟩ := fen_roundtrip p hv
  have hw : WF b := (fromFen_wf p hv hc b hb).1
  have hkp : KingsPresent b := RCE.Proofs.FenPlayed.kingsPresent_of_spec b (by rw [ha]; exact hk)
  refine ⟨b, hb, ha, hw, hkp, ?_⟩
  rw [C01.inCheck_exact b hw hkp, RCE.Proofs.MoveGen.absColor_opp]
  have ht : absColor b.turn = p.turn := by rw [← ha]; rfl
  rw [ha, ht]; exact hs

/-- in particular the engine's legal moves in the loaded position are exactly the rules' legal moves of the described position -/
theorem fromFen_legal_moves_exact (p : Rules.Pos) (hv : ValidPos p) (hc : ConsistentPos p) (hk : SpecKings p)
    (hs : Rules.inCheck p p.turn.opp = false) :
    ∃ b, Board.fromFen? (Rules.render p) = some b ∧ ((b.legalMoves).1.map absMove).Perm (Rules.legalMoves p) := by
  obtain ⟨b, hb, ha, hl⟩ := fromFen_legal p hv hc hk hs
  refine ⟨b, hb, ?_⟩
  have := (C01.legal_exact b hl).1
  rw [ha] at this; exact this

end RCE.Props.C07

#print axioms RCE.Props.C07.fromFen_legal
#print axioms RCE.Props.C07.fromFen_legal_moves_exact
