import RCE.Props.C07legal
/-! # C07, last clause — a re-loaded position *is* the played one, except for the undo stack

"… and from then on behaves (legal moves, keys, bookkeeping) identically to the same position reached by play."
`SameNowK b b'`: piece boards, side to move, move number, en-passant file, castling rights, half-move clock and key
are equal — every field except the two history lists.  Writing the FEN of a played position and loading it back gives
such a board (`loaded_equals_played`), and `SameNowK` is preserved by every move (`reload_then_play`), with the same
generated and legal move lists in the same order at every step.  The counters must fit the FEN reader's `u16`
(games shorter than 65,535 plies); taking back moves *past* the load point is not covered and cannot be (the undo stack
is what differs). -/
namespace RCE.Props.C07
open RCE RCE.Proofs.BoardWF RCE.Proofs.Abs RCE.Proofs.FenRoundtrip RCE.Proofs.FenPlayed

/-- any well-formed board with a consistent key and counters that fit a FEN: its FEN text loads to the same board up to history -/
theorem loaded_equals_played (b : Board) (hw : WF b) (hk : b.zkey = b.scratchKey) (hh : b.halfmove < 65536) (hf : b.fullmove < 65536) :
    ∃ b', Board.fromFen? (Rules.render (abs b)) = some b' ∧ SameNowK b b' ∧ WF b' ∧ b'.zkey = b'.scratchKey :=
  loaded_equals_played_wf b hw hk hh hf

/-- what "the same up to history" buys: identical generated moves, legal moves, check status, evaluation -/
theorem same_now_same_behaviour (b b' : Board) (h : SameNow b b') :
    b'.allMoves = b.allMoves ∧ b'.legalMovesPure = b.legalMovesPure ∧ (∀ c, b'.isInCheck c = b.isInCheck c) ∧ b'.evaluate = b.evaluate :=
  ⟨sameNow_allMoves b b' h, sameNow_legalMovesPure b b' h, fun c => sameNow_isInCheck b b' h c, sameNow_evaluate b b' h⟩

/-- after any game from the start position: re-loading the FEN gives the same position, key and move lists -/
theorem reload_after_game (ms : List Ply) (hs : C03.LegalSeq Board.start ms) (hlen : ms.length < 65535) :
    let b := ms.foldl Board.makeMove Board.start
    ∃ b', Board.fromFen? (Rules.render (abs b)) = some b' ∧ SameNow b b' ∧ b'.zkey = b.zkey ∧ b'.allMoves = b.allMoves ∧ b'.legalMovesPure = b.legalMovesPure :=
  RCE.Proofs.FenPlayed.reload_after_game ms hs hlen

/-- … and it stays the same (key included) along any continuation `ns`, which is legal from the one iff from the other -/
theorem reload_then_play (ms ns : List Ply) (hs : C03.LegalSeq Board.start ms) (hlen : ms.length < 65535) :
    let b := ms.foldl Board.makeMove Board.start
    ∃ b', Board.fromFen? (Rules.render (abs b)) = some b' ∧ SameNowK (ns.foldl Board.makeMove b) (ns.foldl Board.makeMove b') ∧
      (C03.LegalSeq b ns → C03.LegalSeq b' ns) :=
  RCE.Proofs.FenPlayed.reload_then_play ms ns hs hlen

end RCE.Props.C07

#print axioms RCE.Props.C07.loaded_equals_played
#print axioms RCE.Props.C07.same_now_same_behaviour
#print axioms RCE.Props.C07.reload_after_game
#print axioms RCE.Props.C07.reload_then_play
