import RCE.Model.Uci
import RCE.Proofs.MoveGen
/-! # C08 — the UCI position command sets up exactly the described game, or nothing

`execute s (.position kind moves)` is what the command loop does for a parsed `position` command;
`loadPosition` applies the moves on a scratch board and the session board is replaced only when every
move was found.  Move strings are looked up among the legal moves by their coordinate notation. -/
namespace RCE.Props.C08
open RCE RCE.Uci RCE.Proofs.BoardWF RCE.Proofs.Abs

/-- apply move strings one after the other, as `load_position` does -/
def playMoves (b : Board) (ms : List String) : Except String Board :=
  ms.foldlM (fun (b : Board) (mv : String) =>
    match (b.findMove mv).1 with
    | some m => .ok (b.makeMove m)
    | none => .error ("Invalid move: " ++ mv)) b

/-- the start board of a position command -/
def startOf : PositionKind → Option Board
  | .startpos => some Board.start
  | .fen f => Board.fromFen? f.toList

theorem loadPosition_eq (k : PositionKind) (ms : Option (List String)) :
    loadPosition k ms = (startOf k).map fun b0 => playMoves b0 (ms.getD []) := by
  unfold loadPosition startOf playMoves
  cases k with
  | startpos => rfl
  | fen f =>
    simp only []
    cases Board.fromFen? f.toList <;> rfl

/-- **all or nothing**: if any move is refused the session position stays exactly as it was -/
theorem position_atomic (s : Session) (k : PositionKind) (ms : Option (List String)) (e : String)
    (h : loadPosition k ms = some (.error e)) : (execute s (.position k ms)).board = s.board := by
  simp [execute, h]

/-- **independent of anything sent earlier**: on success the new session position is a function of the command alone -/
theorem position_fresh (s s' : Session) (k : PositionKind) (ms : Option (List String)) (b : Board)
    (h : loadPosition k ms = some (.ok b)) :
    (execute s (.position k ms)).board = b ∧ (execute s' (.position k ms)).board = b := by
  simp [execute, h]

/-- a move string is accepted **only if** it is the notation of a legal move, and the move made is that legal move -/
theorem findMove_sound (b : Board) (str : String) (m : Ply) (h : (b.findMove str).1 = some m) :
    m ∈ (b.legalMoves).1 ∧ m.notation = str := by
  unfold Board.findMove at h
  simp only [] at h
  have := List.find?_some h
  have hm := List.mem_of_find?_eq_some h
  exact ⟨hm, by simpa using this⟩

/-- a move string is accepted **if** it is the notation of some legal move -/
theorem findMove_complete (b : Board) (str : String) (m : Ply) (hm : m ∈ (b.legalMoves).1) (hn : m.notation = str) :
    ∃ m', (b.findMove str).1 = some m' := by
  unfold Board.findMove
  simp only []
  cases hf : List.find? (fun m => m.notation == str) (b.legalMoves).1 with
  | some m' => exact ⟨m', rfl⟩
  | none =>
    have := List.find?_eq_none.mp hf m hm
    simp [hn] at this

/-- the game a successful position command sets up: each string names a legal move of the position before it
    and the result is the board after making those moves in order -/
theorem playMoves_spec (b : Board) (ms : List String) (b' : Board) (h : playMoves b ms = .ok b') :
    ∃ plies : List Ply, plies.length = ms.length ∧ b' = plies.foldl Board.makeMove b ∧
      ∀ i (hi : i < plies.length), ∃ hj : i < ms.length,
        plies[i] ∈ (((plies.take i).foldl Board.makeMove b).legalMoves).1 ∧ plies[i].notation = ms[i] := by
  induction ms generalizing b with
  | nil =>
    simp only [playMoves, List.foldlM_nil] at h
    cases h
    exact ⟨[], rfl, rfl, by intro i hi; simp at hi⟩
  | cons mv ms ih =>
    unfold playMoves at h
    simp only [List.foldlM_cons] at h
    cases hf : (b.findMove mv).1 with
    | none => simp [hf, bind, Except.bind] at h
    | some m =>
      simp only [hf, bind, Except.bind] at h
      obtain ⟨plies, hl, hb, hall⟩ := ih (b.makeMove m) h
      obtain ⟨hm1, hm2⟩ := findMove_sound b mv m hf
      refine ⟨m :: plies, by simp [hl], by simp [hb], ?_⟩
      intro i hi
      cases i with
      | zero => exact ⟨by simp, by simpa using hm1, by simpa using hm2⟩
      | succ j =>
        have hj : j < plies.length := by simpa using hi
        obtain ⟨hj', h1, h2⟩ := hall j hj
        exact ⟨by simp; omega, by simpa using h1, by simpa using h2⟩

/-- in a legal-game position the notation identifies the legal move: two legal moves with the same
    (from, to, promotion piece) are the same move (from C01: the legal list has no duplicate triples) -/
theorem legal_move_unique (b : Board) (hl : Legal b) (m m' : Ply)
    (hm : m ∈ (b.legalMoves).1) (hm' : m' ∈ (b.legalMoves).1) (h : absMove m = absMove m') : m = m' := by
  exact RCE.Proofs.MoveGenList.inj_of_nodup_map absMove (RCE.Proofs.MoveGen.legal_exact_of_refines RCE.Proofs.MoveGen.make_refines b hl).2 hm hm' h

end RCE.Props.C08

#print axioms RCE.Props.C08.position_atomic
#print axioms RCE.Props.C08.position_fresh
#print axioms RCE.Props.C08.findMove_sound
#print axioms RCE.Props.C08.findMove_complete
#print axioms RCE.Props.C08.playMoves_spec
#print axioms RCE.Props.C08.legal_move_unique
