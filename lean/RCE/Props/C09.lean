import RCE.Proofs.SearchBest
import RCE.Props.C09chess
import RCE.Proofs.MoveGen
/-! # C09 — every go is answered by exactly one legal bestmove, whatever the limits

`Search.search` is the whole of what the search thread does for one `go`; its result carries exactly
one `best` field, printed as the single `bestmove` line.  The theorems hold for every game, every
position with a legal move, **every** limit combination (node budget, move time, clock control — any
values including 0), every clock, every external stop point and every initial cache with `i16` scores. -/
namespace RCE.Props.C09
open RCE.Search RCE.Proofs.SearchDefs RCE.Proofs.SearchBest

variable {P M : Type} [DecidableEq M]

/-- the move answered is a legal move of the searched position -/
theorem one_legal_bestmove (env : Env) (G : Game P M) (p : P) (maxDepth : Option Nat) (tt0 : Table M)
    (hl : legalMovesOf G p ≠ []) (he : EvalBoundedFrom G p) (ht : TableScoresOK tt0) :
    ∃ m, (search env G p maxDepth tt0).best = some m ∧ m ∈ legalMovesOf G p := by
  have h := (iterate_B env he (maxDepth.getD 255) (maxDepth.getD 255) (rootInv_init G p ht)).1
  unfold search
  simp only []
  cases hbm : (iterate env G p (maxDepth.getD 255) (maxDepth.getD 255) 1 { tt := tt0 } []).1.bestMove with
  | some m => exact ⟨m, rfl, h.bm m hbm⟩
  | none =>
    simp only []
    unfold legalMovesOf at hl ⊢
    cases hf : (G.allMoves p).filter (G.legal p) with
    | nil => exact absurd hf hl
    | cons m t => exact ⟨m, rfl, List.mem_cons_self⟩

/-- the ply counter never leaves `0..255`, so every `killers[info.depth]` access is in range and no `u8`
    arithmetic on it overflows: `ab` called at ply `k` with fuel `256 − k` returns at ply `k` -/
theorem ply_restored (env : Env) (G : Game P M) (fuel : Nat) (p : P) (a b : Int) (depth : Nat) (st : St M)
    (h : st.ply + fuel = 256) : (ab env G fuel p a b depth st).2.ply = st.ply :=
  ((keep_across env G).ab fuel p a b depth st).ply

/-! ### the chess instance, end to end: the move answered is legal under the rules of chess -/

open RCE RCE.Proofs.Abs RCE.Proofs.BoardWF in
/-- the legal moves of the search's game interface are the model's legal moves -/
theorem chess_legalMovesOf (b : Board) : legalMovesOf chessGame b = b.legalMovesPure := rfl

open RCE RCE.Proofs.Abs RCE.Proofs.BoardWF in
/-- every legal move of the model is, as (from, to, promotion), legal under the rules of chess -/
theorem _root_.RCE.Props.C12.chess_model_move_is_spec_move (b : Board) (hl : Legal b) (m : Ply) (hm : m ∈ b.legalMovesPure) :
    absMove m ∈ Rules.legalMoves (abs b) := by
  apply (RCE.Proofs.MoveGen.legal_exact_of_refines RCE.Proofs.MoveGen.make_refines b hl).1.mem_iff.mp
  rw [(RCE.Proofs.BoardUndo.legalMoves_pure' b hl.wf).2]; exact List.mem_map_of_mem hm

open RCE RCE.Proofs.Abs RCE.Proofs.BoardWF in
/-- for every legal-game position with a legal move, every `go` (any limits, clock, stop point, cache with `i16` scores):
    the bestmove answered is, as (from, to, promotion), a legal move of the rules spec in that position -/
theorem chess_bestmove_legal_by_the_rules (b : Board) (hl : Legal b) (g : GoLimits) (maxDepth : Option Nat)
    (clock : Nat → Nat) (stopAtPoll : Nat) (cacheOff : Bool) (tt0 : Table Ply)
    (hm : b.legalMovesPure ≠ []) (he : EvalBoundedFrom chessGame b) (ht : TableScoresOK tt0) :
    ∃ m, (chessSearch b g maxDepth clock stopAtPoll cacheOff tt0).best = some m ∧
         absMove m ∈ Rules.legalMoves (abs b) := by
  obtain ⟨m, hb, hmem⟩ := one_legal_bestmove
    { limits := g.toLimits b.turn, clock := clock, stopAtPoll := stopAtPoll, cacheOff := cacheOff } chessGame b maxDepth tt0
    (by rw [chess_legalMovesOf]; exact hm) he ht
  exact ⟨m, hb, C12.chess_model_move_is_spec_move b hl m hmem⟩

open RCE RCE.Proofs.Abs RCE.Proofs.BoardWF RCE.Proofs.EvalBound in
/-- the same with the evaluation bound discharged: for every legal-game position whose promote-everything material is
    within the bound (every position with at most 16 men a side is), every `go` is answered with a move that is legal
    under the rules of chess -/
theorem chess_go_answers_a_legal_move (b : Board) (hl : Legal b) (hp : PotentialBounded b) (g : GoLimits)
    (maxDepth : Option Nat) (clock : Nat → Nat) (stopAtPoll : Nat) (cacheOff : Bool) (tt0 : Table Ply)
    (hm : b.legalMovesPure ≠ []) (ht : TableScoresOK tt0) :
    ∃ m, (chessSearch b g maxDepth clock stopAtPoll cacheOff tt0).best = some m ∧
         absMove m ∈ Rules.legalMoves (abs b) :=
  chess_bestmove_legal_by_the_rules b hl g maxDepth clock stopAtPoll cacheOff tt0 hm
    (chess_eval_bounded b hl.wf hp) ht

end RCE.Props.C09

#print axioms RCE.Props.C09.one_legal_bestmove
#print axioms RCE.Props.C09.ply_restored
#print axioms RCE.Props.C09.chess_bestmove_legal_by_the_rules
#print axioms RCE.Props.C09.chess_go_answers_a_legal_move
