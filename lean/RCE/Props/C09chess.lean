import RCE.Proofs.EvalBound
import RCE.Proofs.BoardKey
/-! # C09 (chess instance) — the evaluation hypothesis of the search theorems is discharged

`EvalBoundedFrom chessGame b` — every static evaluation in the look-ahead tree below `b` lies strictly inside
the mate bands — holds for every well-formed position whose promote-everything material (`potential`: each
pawn counted as a queen) is at most 32511 a side. -/
namespace RCE.Props.C09
open RCE RCE.Search RCE.Proofs.SearchDefs RCE.Proofs.BoardWF RCE.Proofs.EvalBound

/-- the hypothesis `EvalBoundedFrom` of the search theorems holds for chess from every well-formed position whose
    promote-everything material is within the bound (16 men a side gives at most 9·900 + 2·500 + 4·300 = 10300) -/
theorem chess_eval_bounded (b : Board) (hw : WF b) (hp : PotentialBounded b) : EvalBoundedFrom chessGame b := by
  intro q hr
  obtain ⟨-, p1, p2⟩ := reach_inv b hw q hr
  obtain ⟨h1, h2⟩ := eval_of_potential q 32511 (by decide) (Nat.le_trans p1 hp.1) (Nat.le_trans p2 hp.2)
  have e : chessGame.eval q = q.evaluate := by simp only [chessGame]
  rw [e]
  constructor <;> omega

/-- non-vacuity -/
example : PotentialBounded Board.start := start_potentialBounded

/-- the starting position: 9·900 + 2·500 + 4·300 a side -/
example : potential Board.start .white = 10300 ∧ potential Board.start .black = 10300 := start_potential

/-- both hypotheses hold of the starting position: the search theorems' `EvalBoundedFrom` premise is
    discharged for every game from the start -/
theorem chess_eval_bounded_start : EvalBoundedFrom chessGame Board.start :=
  chess_eval_bounded Board.start RCE.Proofs.BoardKey.start_ok'.2 start_potentialBounded

/-- the allowance `Search::search` gives the mover comes out of the mover's OWN clock and increment — at most its
    remaining time plus its increment — whatever the opponent's clock and increment say (the timing clause of C09,
    model part: "within the time the limits allow") -/
theorem allowance_within_own_clock (g : GoLimits) (turn : Color) :
    (g.toLimits turn).timer ≤ (match turn with
      | .white => g.wtime.getD 0 + g.winc.getD 0
      | .black => g.btime.getD 0 + g.binc.getD 0) := by
  cases turn <;> simp only [GoLimits.toLimits] <;> omega

/-- a clock limit is noticed at the first consultation that reads the allowance or more (below the ply cap; a node
    budget hit at the same moment interrupts as well); `C13.no_nodes_after_abort` then says no further node is visited -/
theorem clock_expiry_noticed {M : Type} (env : Env) (st : St M) (hp : st.ply ≠ 255)
    (hm : env.limits.movetime = none)
    (htc : env.limits.timeControl = true) (ht : env.limits.timer ≤ env.clock st.clockReads) :
    (limitsExceeded env st).1 = true := by
  unfold limitsExceeded
  simp [hp, hm, htc, ht]
  split
  · split <;> rfl
  · rfl

/-- non-vacuity: `go btime 300 binc 0 wtime 600000 winc 20000` with Black to move allows 15 ms, not 10 s -/
example : (({ btime := some 300, binc := some 0, wtime := some 600000, winc := some 20000 } : GoLimits).toLimits .black).timer = 15 := by decide

end RCE.Props.C09
#print axioms RCE.Props.C09.chess_eval_bounded
#print axioms RCE.Props.C09.chess_eval_bounded_start
#print axioms RCE.Props.C09.allowance_within_own_clock
#print axioms RCE.Props.C09.clock_expiry_noticed
