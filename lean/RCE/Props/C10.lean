import RCE.Model.Conc
/-! # C10 — stop is never lost and go is never dropped, under any timing

All statements are about `run true (init script) schedule` for **every** script over
{go (finite | infinite), stop, isready, position} and **every** schedule (any list of labels, any
length): induction over the schedule with an invariant.  What the model cannot show: that the OS
eventually schedules each thread (fairness is a hypothesis of the progress statement, expressed as
"after k further search steps"), and wall-clock latency. -/
namespace RCE.Props.C10
open RCE.Conc

/-- the invariant of the fixed protocol -/
structure Inv (total : Nat) (s : St) : Prop where
  /-- once the answer is being printed or is out, the flag is already cleared: the next `go` will be accepted -/
  flagClear : (s.thread = some .printing ∨ s.thread = some .printed ∨ s.thread = some .exited) → s.flag = false
  /-- nothing re-arms the flag: a stop that was processed for this search stays in force -/
  stopKept : s.stopSeen = true → s.flag = false
  /-- a search that has seen a stop takes at most the one node step that was already in flight -/
  prompt : s.nodesAfterStop = 0
  /-- bookkeeping: one bestmove per accepted go (the live search owes one until it has printed) -/
  owed : s.bestmoves + (if s.thread = some .spawned ∨ s.thread = some .searching ∨ s.thread = some .clearing ∨ s.thread = some .printing then 1 else 0) = s.accepted
  /-- no go is silently discarded: each is accepted, explicitly refused, or still waiting in the script -/
  gos : s.accepted + s.refused + countGo s.script = total
  idle : s.thread = none → s.accepted = 0

theorem inv_init (script : List Cmd) : Inv (countGo script) (init script) := by
  constructor <;> simp [init]

theorem inv_spawn (total : Nat) (s : St) (r : List Cmd) (b : Option Nat) (h4 : s.bestmoves = s.accepted)
    (h5 : s.accepted + s.refused + (countGo r + 1) = total) : Inv total (spawn s r b) :=
  ⟨nofun, nofun, rfl, by simp [spawn, h4], by simp only [spawn]; omega, nofun⟩

theorem inv_step (total : Nat) (s s' : St) (l : Lbl) (h : Inv total s) (hs : step true s l = some s') : Inv total s' := by
  obtain ⟨script, thread, flag, budget, bestmoves, readyoks, accepted, refused, nodesAfterStop, stopSeen⟩ := s
  -- in each case: the clauses the transition touches; the others are those of `h` as they stand
  cases l with
  | main =>
    cases script with
    | nil => cases hs
    | cons c r =>
      cases c with
      | isready => cases hs; exact { h with }
      | position => cases hs; exact { h with }
      | stop =>
        cases hs
        cases thread with
        | none => exact { h with stopKept := fun hh => h.stopKept (by simpa using hh) }
        | some pc => exact { h with flagClear := fun _ => rfl, stopKept := fun _ => rfl }
      | go b =>
        -- accepted when nothing is owed (no thread, or it has exited), refused while the flag is set, else blocked
        have hsp := fun e => inv_spawn total ⟨.go b :: r, thread, flag, budget, bestmoves, readyoks, accepted,
            refused, nodesAfterStop, stopSeen⟩ r b e h.gos
        cases thread with
        | none => cases hs; exact hsp (by simpa using h.owed)
        | some pc =>
          cases pc with
          | exited => cases hs; exact hsp (by simpa using h.owed)
          | spawned | searching | clearing | printing | printed =>
            cases flag with
            | false => cases hs
            | true =>
              cases hs
              exact { h with gos := by have := h.gos; simp only [countGo] at this ⊢; omega, idle := nofun }
  | search =>
    cases thread with
    | none => cases hs
    | some pc =>
      cases pc with
      | spawned => cases hs; exact { h with flagClear := nofun, idle := nofun }
      | searching =>
        cases flag with
        | false =>
          cases hs
          exact { h with flagClear := nofun, stopKept := fun _ => rfl, idle := nofun }
        | true =>
          -- a node step happens only while the flag is set, so no stop has been seen (`stopKept`)
          have hss : stopSeen = false := by cases stopSeen; rfl; exact Bool.noConfusion (h.stopKept rfl)
          subst hss
          cases budget with
          | none => cases hs; exact { h with }
          | some k =>
            cases k with
            | zero => cases hs; exact { h with flagClear := nofun, idle := nofun }
            | succ k => cases hs; exact { h with }
      | clearing =>
        cases hs
        exact { h with flagClear := fun _ => rfl, stopKept := fun _ => rfl, idle := nofun }
      | printing =>
        cases hs
        exact { h with flagClear := fun _ => h.flagClear (.inl rfl), owed := by simpa using h.owed, idle := nofun }
      | printed =>
        cases hs
        exact { h with flagClear := fun _ => rfl, stopKept := fun _ => rfl, owed := by simpa using h.owed, idle := nofun }
      | exited => cases hs

theorem inv_run (total : Nat) (s : St) (sched : List Lbl) (h : Inv total s) : Inv total (run true s sched) := by
  induction sched generalizing s with
  | nil => exact h
  | cons l ls ih =>
    simp only [run]
    cases hs : step true s l with
    | none => simpa [hs] using ih s h
    | some s' => simpa [hs] using ih s' (inv_step total s s' l h hs)

/-- the state reached by the fixed protocol from a fresh session under a schedule -/
def reach (script : List Cmd) (sched : List Lbl) : St := run true (init script) sched

theorem reach_inv (script : List Cmd) (sched : List Lbl) : Inv (countGo script) (reach script sched) :=
  inv_run _ _ sched (inv_init script)

/-- **stop is never lost**: under every schedule, a search for which a `stop` has been processed has its flag
    cleared for good and never executes another node -/
theorem stop_never_lost (script : List Cmd) (sched : List Lbl) :
    ((reach script sched).stopSeen = true → (reach script sched).flag = false) ∧ (reach script sched).nodesAfterStop = 0 :=
  ⟨(reach_inv script sched).stopKept, (reach_inv script sched).prompt⟩

/-- …and then the search thread needs only its own next steps to answer: from any state with the flag cleared and
    the thread searching, three search steps print the bestmove (bounded progress; fairness = those steps happen) -/
theorem stop_answers_in_three_steps (s : St) (hf : s.flag = false) (ht : s.thread = some .searching) :
    (run true s [.search, .search, .search]).bestmoves = s.bestmoves + 1 ∧
    (run true s [.search, .search, .search]).thread = some .printed := by
  simp [run, step, ht, hf]

/-- **go is never dropped**: under every schedule, once the previous answer is being printed or is out, a `go` is never
    refused: the input thread either accepts it at once (thread exited) or waits for the thread to exit (`none`: blocked) -/
theorem go_never_dropped (script : List Cmd) (sched : List Lbl) (b : Option Nat) (r : List Cmd)
    (hpc : (reach script sched).thread = some .printing ∨ (reach script sched).thread = some .printed ∨
           (reach script sched).thread = some .exited)
    (hsc : (reach script sched).script = .go b :: r) :
    step true (reach script sched) .main = none ∨
    ∃ s', step true (reach script sched) .main = some s' ∧ s'.refused = (reach script sched).refused ∧
          s'.accepted = (reach script sched).accepted + 1 := by
  have hfl := (reach_inv script sched).flagClear hpc
  generalize reach script sched = s at *
  rcases hpc with h | h | h
  · left; simp [step, hsc, h, hfl]
  · left; simp [step, hsc, h, hfl]
  · right; exact ⟨spawn s r b, by simp [step, hsc, h], by simp [spawn], by simp [spawn]⟩

/-- a blocked `go` is only waiting for the thread's own last steps: two search steps later it is accepted -/
theorem blocked_go_is_accepted (s : St) (b : Option Nat) (r : List Cmd) (hf : s.flag = false)
    (ht : s.thread = some .printing) (hsc : s.script = .go b :: r) :
    (run true s [.search, .search, .main]).accepted = s.accepted + 1 ∧ (run true s [.search, .search, .main]).refused = s.refused := by
  simp [run, step, ht, hf, hsc, spawn]

/-- **one bestmove per go**: in every state reached, every accepted `go` has been answered exactly once except the
    one still being searched; every `go` of the script was accepted, explicitly refused ("Search is already running")
    or is still waiting — none is silently discarded.  In a final state (thread printed / exited) the counts agree. -/
theorem one_bestmove_per_go (script : List Cmd) (sched : List Lbl) :
    (reach script sched).accepted + (reach script sched).refused + countGo (reach script sched).script = countGo script ∧
    (((reach script sched).thread = some .exited ∨ (reach script sched).thread = some .printed ∨
      (reach script sched).thread = none) → (reach script sched).bestmoves = (reach script sched).accepted) := by
  have h := reach_inv script sched
  generalize reach script sched = s at *
  refine ⟨h.gos, ?_⟩
  intro hpc
  have h4 := h.owed
  rcases hpc with hh | hh | hh
  · simpa [hh] using h4
  · simpa [hh] using h4
  · have := h.idle hh; simp [hh] at h4; omega

/-! ### the protocol as it was (before the `fix:` commits): the same model refutes both clauses -/

/-- a `stop` processed before the search thread's entry store is overwritten: the search runs on (3 nodes and counting) -/
theorem old_stop_lost :
    let s := run false (init [.go none, .stop]) [.main, .main, .search, .search, .search, .search]
    s.nodesAfterStop = 3 ∧ s.bestmoves = 0 ∧ s.flag = true := by decide

/-- a `go` processed after `bestmove` was printed but before the thread exited is refused -/
theorem old_go_dropped :
    let s := run false (init [.go (some 0), .go (some 0)]) [.main, .search, .search, .search, .main]
    s.bestmoves = 1 ∧ s.refused = 1 := by decide

/-- the same two schedules under the fixed protocol -/
example : (run true (init [.go none, .stop]) [.main, .main, .search, .search, .search, .search]).bestmoves = 1 := by decide
example : (run true (init [.go (some 0), .go (some 0)]) [.main, .search, .search, .search, .search, .main]).refused = 0 := by decide

end RCE.Props.C10

#print axioms RCE.Props.C10.stop_never_lost
#print axioms RCE.Props.C10.stop_answers_in_three_steps
#print axioms RCE.Props.C10.go_never_dropped
#print axioms RCE.Props.C10.blocked_go_is_accepted
#print axioms RCE.Props.C10.one_bestmove_per_go
#print axioms RCE.Props.C10.old_stop_lost
#print axioms RCE.Props.C10.old_go_dropped
