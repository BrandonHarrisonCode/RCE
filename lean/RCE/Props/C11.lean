import RCE.Proofs.SearchNegamax
import RCE.Props.C11ref
/-! # C11 — pruning, move ordering and re-searches never change the search result

With the cache neutralised and nothing limiting the search, the score the fail-hard PVS search
arrives at for the root — and the value of the move it picks — equal the plain minimax value
`rootValue` of the engine's own look-ahead game (`Spec/Negamax.lean`): for every game, every position
with a legal move, every depth 1..255, every initial killer table and cache content (they only
permute the move order). -/
namespace RCE.Props.C11
open RCE.Search RCE.Proofs.SearchDefs RCE.Proofs.SearchNegamax

variable {P M : Type} [DecidableEq M]

theorem ab_eq_negamax (env : Env) (G : Game P M) (p : P) (d : Nat) (tt0 : Table M)
    (hu : Unlimited env) (hoff : env.cacheOff = true) (he : EvalBoundedFrom G p) (hd : 1 ≤ d ∧ d ≤ 255)
    (hl : legalMovesOf G p ≠ []) :
    let r := search env G p (some d) tt0
    r.st.bestScore = some (rootValue G p d) ∧
    ∃ m, r.best = some m ∧ m ∈ legalMovesOf G p ∧ rootMoveValue G p d m = rootValue G p d := by
  have h := iterate_spec hu hoff p he hl d d 1 { tt := tt0 } [] hd.1 (by omega) ⟨rfl, rfl⟩
  simp only [search, Option.getD_some]
  generalize iterate env G p d d 1 { tt := tt0 } [] = res at h ⊢
  obtain ⟨st, infos⟩ := res
  obtain ⟨_, h3, m, h4, h5, h6⟩ := h
  simp only [] at h3 h4
  refine ⟨h3, m, ?_, h5, h6⟩
  simp only [h4]

end RCE.Props.C11

#print axioms RCE.Props.C11.ab_eq_negamax
