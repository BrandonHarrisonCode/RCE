import RCE.Props.C11
import RCE.Props.C09chess
/-! # C11 for chess — the evaluation-range hypothesis discharged

`ab_eq_negamax` is stated for an abstract game under `EvalBoundedFrom` (static evaluations below the mate band, so that
negation never saturates).  For the chess instance the hypothesis holds from every well-formed position whose
promote-everything material is within the bound (`chess_eval_bounded`), and that bound is inherited by every position a
game can reach; so the theorem applies, unconditionally, to every position of every game from the start position. -/
namespace RCE.Props.C11
open RCE RCE.Search RCE.Proofs.SearchDefs RCE.Proofs.EvalBound RCE.Proofs.BoardWF

/-- chess, any well-formed position within the material bound: root score and chosen-move value are the plain minimax value -/
theorem chess_ab_eq_negamax (env : Env) (b : Board) (d : Nat) (tt0 : Table Ply) (hw : WF b) (hp : PotentialBounded b)
    (hu : Unlimited env) (hoff : env.cacheOff = true) (hd : 1 ≤ d ∧ d ≤ 255) (hl : legalMovesOf chessGame b ≠ []) :
    let r := search env chessGame b (some d) tt0
    r.st.bestScore = some (rootValue chessGame b d) ∧
    ∃ m, r.best = some m ∧ m ∈ legalMovesOf chessGame b ∧ rootMoveValue chessGame b d m = rootValue chessGame b d :=
  ab_eq_negamax env chessGame b d tt0 hu hoff (RCE.Props.C09.chess_eval_bounded b hw hp) hd hl

/-- every position reachable by generated moves from the start position (a superset of the positions of legal games) -/
theorem chess_ab_eq_negamax_in_every_game (env : Env) (q : Board) (d : Nat) (tt0 : Table Ply)
    (hr : Reach chessGame Board.start q)
    (hu : Unlimited env) (hoff : env.cacheOff = true) (hd : 1 ≤ d ∧ d ≤ 255) (hl : legalMovesOf chessGame q ≠ []) :
    let r := search env chessGame q (some d) tt0
    r.st.bestScore = some (rootValue chessGame q d) ∧
    ∃ m, r.best = some m ∧ m ∈ legalMovesOf chessGame q ∧ rootMoveValue chessGame q d m = rootValue chessGame q d := by
  obtain ⟨wq, p1, p2⟩ := reach_inv Board.start RCE.Proofs.BoardKey.start_ok'.2 q hr
  exact chess_ab_eq_negamax env q d tt0 wq
    ⟨Nat.le_trans p1 start_potentialBounded.1, Nat.le_trans p2 start_potentialBounded.2⟩ hu hoff hd hl

end RCE.Props.C11

#print axioms RCE.Props.C11.chess_ab_eq_negamax
#print axioms RCE.Props.C11.chess_ab_eq_negamax_in_every_game
