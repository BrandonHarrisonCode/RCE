import RCE.Proofs.RefNegamax
/-! # C11, the reference of the differential check

Plain `negamax` is too slow to run (unpruned capture trees), so the check compares the engine with `refRootValue` /
`refRootMoveValue` (`Spec/Negamax.lean`): textbook fail-soft alpha-beta, no cache, no null windows.  These two theorems
say that the reference computes the values `rootValue` / `rootMoveValue` of C11's statement. -/
namespace RCE.Props.C11
open RCE.Search RCE.Proofs.SearchDefs
variable {P M : Type}
/-- the pruned executable reference used by the differential check equals the plain minimax value -/
theorem ref_root_value_eq (G : Game P M) (p : P) (d : Nat) (he : EvalBoundedFrom G p) (hd : 1 ≤ d)
    (hl : legalMovesOf G p ≠ []) : refRootValue G p d = rootValue G p d := by
  open RCE.Proofs.RefNegamax RCE.Proofs.SearchUnfold RCE.Proofs.SearchRules RCE.Proofs.SearchNegamax in
  haveI : DecidableEq M := fun x y => Classical.propDecidable (x = y)
  have hb : ∀ m ∈ legalMovesOf G p, EvalBoundedFrom G (G.play p m) :=
    fun m hm => evalBounded_step he (mem_legalMovesOf.1 hm).1
  have hrange : ∀ m ∈ legalMovesOf G p, -32767 ≤ rootMoveValue G p d m ∧ rootMoveValue G p d m ≤ 32767 := fun m hm => by
    have := negamax_range G 255 (G.play p m) (d - 1) 1 (hb m hm) (by omega) (by omega)
    unfold rootMoveValue
    omega
  -- the root loop's result is `Good` for the window `(−INF, INF)`, which strictly contains every value: it is exact
  have hg : Good (rootValue G p d) (-INF) INF (refRootValue G p d) :=
    refKids_good G p (fun c x y => refNegamax G 255 c (d - 1) 1 x y) (fun c => negamax G 255 c (d - 1) 1)
    (legalMovesOf G p) (-INF) INF (by unfold INF; omega) hl
    (fun m hm x y hxy => refNegamax_fs G 255 (G.play p m) (d - 1) 1 x y (hb m hm) (by omega) (by omega) hxy)
    (fun m hm => (hrange m hm).1)
  have hhigh : rootValue G p d ≤ 32767 :=
    maxList_le _ _ (fun x hx => by obtain ⟨m, hm, rfl⟩ := List.mem_map.1 hx; exact (hrange m hm).2) _ (by unfold MINS; omega)
  have hlow : MINS ≤ rootValue G p d := maxList_ge _ _
  exact hg.exact (by unfold INF; unfold MINS at hlow; omega) (by unfold INF; omega)
/-- and so does the value it assigns to a single root move -/
theorem ref_root_move_value_eq (G : Game P M) (p : P) (d : Nat) (m : M) (he : EvalBoundedFrom G p) (hd : 1 ≤ d)
    (hm : m ∈ legalMovesOf G p) : refRootMoveValue G p d m = rootMoveValue G p d m := by
  open RCE.Proofs.RefNegamax RCE.Proofs.SearchUnfold RCE.Proofs.SearchRules RCE.Proofs.SearchNegamax in
  haveI : DecidableEq M := fun x y => Classical.propDecidable (x = y)
  have hb := evalBounded_step he (mem_legalMovesOf.1 hm).1
  have hfs := refNegamax_fs G 255 (G.play p m) (d - 1) 1 (-INF) INF hb (by omega) (by omega)
    (by unfold INF; omega)
  have hr := negamax_range G 255 (G.play p m) (d - 1) 1 hb (by omega) (by omega)
  unfold refRootMoveValue rootMoveValue
  rw [hfs.exact (by unfold INF; omega) (by unfold INF; omega)]
end RCE.Props.C11
#print axioms RCE.Props.C11.ref_root_value_eq
#print axioms RCE.Props.C11.ref_root_move_value_eq
