import RCE.Props.C12
import RCE.Props.C01
import RCE.Props.C03
import RCE.Props.C09
/-! # C12, the chess instance end to end — a mate in one under the rules of chess is played

`C12.mate_in_one_answered` says that the search answers with a move that mates at once in the search's game interface
whenever one exists; C01 (`legal_exact`, `mate_stalemate_exact`) and C03 (`make_refines`, `make_legal`) carry both the
hypothesis and the conclusion to the rules spec; the dictionary between the legal moves and children of the model and
those of the rules spec (`chess_forall_children`, `chess_exists_child`) serves `C12chess2.lean` as well. -/
namespace RCE.Props.C12
open RCE RCE.Search RCE.Proofs.SearchDefs RCE.Proofs.SearchMate RCE.Proofs.SearchMateOne RCE.Proofs.Abs RCE.Proofs.BoardWF

/-- the board after a legal move is a legal-game position standing for the rules' successor position -/
theorem chess_child (b : Board) (hl : Legal b) (m : Ply) (hm : m ∈ b.legalMovesPure) :
    Legal (b.makeMove m) ∧ abs (b.makeMove m) = Rules.apply (abs b) (absMove m) :=
  ⟨C03.make_legal b m hl hm, C03.make_refines b m hl (C03.legal_is_generated b m hm)⟩

/-- a position that is checkmate in the model is checkmate under the rules -/
theorem chess_mated_iff (c : Board) (hl : Legal c) : Mated chessGame c ↔ Rules.isCheckmate (abs c) = true := by
  have hpure := (RCE.Proofs.BoardUndo.legalMoves_pure' c hl.wf).2
  have hms := (C01.mate_stalemate_exact c hl).1
  rw [hpure] at hms
  rw [← hms]
  have hchk : chessGame.inCheck c = c.isInCheck c.turn := rfl
  unfold Mated
  rw [C09.chess_legalMovesOf, hchk]
  constructor
  · intro h
    rw [h.1, h.2]; rfl
  · intro h
    rw [Bool.and_eq_true] at h
    exact ⟨List.isEmpty_iff.mp h.1, h.2⟩

/-- a legal move of the model mates at once exactly when, under the rules of chess, the position after it is checkmate -/
theorem chess_mates_iff (b : Board) (hl : Legal b) (m : Ply) (hm : m ∈ b.legalMovesPure) :
    Mates chessGame b m ↔ Rules.isCheckmate (Rules.apply (abs b) (absMove m)) = true := by
  obtain ⟨hl', habs⟩ := chess_child b hl m hm
  have h := chess_mated_iff (b.makeMove m) hl'
  rw [habs] at h
  exact ⟨fun g => h.1 g.2, fun g => ⟨by rw [C09.chess_legalMovesOf]; exact hm, h.2 g⟩⟩

/-- every move legal under the rules of chess is the image of a legal move of the model -/
theorem chess_spec_move_has_model_move (b : Board) (hl : Legal b) (mv : Rules.Move)
    (hmv : mv ∈ Rules.legalMoves (abs b)) : ∃ m ∈ b.legalMovesPure, absMove m = mv := by
  have h := (C01.legal_exact b hl).1.mem_iff.mpr hmv
  rw [(RCE.Proofs.BoardUndo.legalMoves_pure' b hl.wf).2] at h
  exact List.mem_map.mp h

/-! ## moving between the model and the rules spec

The legal moves of a legal-game position and the positions after them correspond to those of the rules spec (C01, C03):
a statement about all of them, or about one of them, is carried over by `chess_forall_children` / `chess_exists_child`. -/

theorem chess_forall_children (b : Board) (hl : Legal b) {Φ : Board → Prop} {Ψ : Rules.Pos → Prop}
    (h : ∀ c, Legal c → (Φ c ↔ Ψ (abs c))) :
    (∀ m ∈ legalMovesOf chessGame b, Φ (chessGame.play b m)) ↔
    ∀ mv ∈ Rules.legalMoves (abs b), Ψ (Rules.apply (abs b) mv) := by
  constructor
  · intro g mv hmv
    obtain ⟨m, hm, rfl⟩ := chess_spec_move_has_model_move b hl mv hmv
    obtain ⟨hl', habs⟩ := chess_child b hl m hm
    rw [← habs]; exact (h _ hl').1 (g m hm)
  · intro g m hm
    obtain ⟨hl', habs⟩ := chess_child b hl m hm
    exact (h _ hl').2 (habs ▸ g _ (chess_model_move_is_spec_move b hl m hm))

theorem chess_exists_child (b : Board) (hl : Legal b) {Φ : Board → Prop} {Ψ : Rules.Pos → Prop}
    (h : ∀ c, Legal c → (Φ c ↔ Ψ (abs c))) :
    (∃ m ∈ legalMovesOf chessGame b, Φ (chessGame.play b m)) ↔
    ∃ mv ∈ Rules.legalMoves (abs b), Ψ (Rules.apply (abs b) mv) := by
  constructor
  · rintro ⟨m, hm, g⟩
    obtain ⟨hl', habs⟩ := chess_child b hl m hm
    exact ⟨absMove m, chess_model_move_is_spec_move b hl m hm, habs ▸ (h _ hl').1 g⟩
  · rintro ⟨mv, hmv, g⟩
    obtain ⟨m, hm, rfl⟩ := chess_spec_move_has_model_move b hl mv hmv
    obtain ⟨hl', habs⟩ := chess_child b hl m hm
    exact ⟨m, hm, (h _ hl').2 (habs ▸ g)⟩

theorem chess_has_move_iff (b : Board) (hl : Legal b) :
    legalMovesOf chessGame b ≠ [] ↔ Rules.legalMoves (abs b) ≠ [] := by
  constructor
  · intro h
    obtain ⟨m, hm⟩ := List.exists_mem_of_ne_nil _ h
    exact List.ne_nil_of_mem (chess_model_move_is_spec_move b hl m hm)
  · intro h
    obtain ⟨mv, hmv⟩ := List.exists_mem_of_ne_nil _ h
    obtain ⟨m, hm, _⟩ := chess_spec_move_has_model_move b hl mv hmv
    exact List.ne_nil_of_mem hm

theorem chess_hasMateInOne_iff (c : Board) (hl : Legal c) :
    (∃ r, Mates chessGame c r) ↔
    ∃ mv ∈ Rules.legalMoves (abs c), Rules.isCheckmate (Rules.apply (abs c) mv) = true :=
  chess_exists_child c hl (Φ := Mated chessGame) (Ψ := fun q => Rules.isCheckmate q = true) chess_mated_iff

/-- the environment `chessSearch` runs the search in -/
abbrev goEnv (b : Board) (g : GoLimits) (clock : Nat → Nat) (stopAtPoll : Nat) (cacheOff : Bool) : Env :=
  { limits := g.toLimits b.turn, clock := clock, stopAtPoll := stopAtPoll, cacheOff := cacheOff }

open RCE.Proofs.EvalBound in
/-- in a legal-game position (material within the bound) in which the rules of chess give a mate in one, every `go` that
    completes an iteration — under every limit, stop point and monotone clock, cache on, from any cache satisfying the
    invariant — answers with a move that is legal under the rules of chess and after which the position is checkmate
    (key / draw hypotheses as in `mate_in_one_played`) -/
theorem chess_mate_in_one_by_the_rules (b : Board) (hl : Legal b) (hp : PotentialBounded b) (g : GoLimits)
    (maxDepth : Option Nat) (clock : Nat → Nat) (hc : ∀ i j, i ≤ j → clock i ≤ clock j) (stopAtPoll : Nat)
    (tt0 : Search.Table Ply)
    (hk : KeyMate chessGame) (hK : MatedKeysFresh chessGame b) (hD : NoDrawAtMate chessGame b)
    (hinv : MateOneInv chessGame b tt0)
    (hex : ∃ mv ∈ Rules.legalMoves (abs b), Rules.isCheckmate (Rules.apply (abs b) mv) = true)
    (hdone : (chessSearch b g maxDepth clock stopAtPoll false tt0).infos ≠ []) :
    ∃ m, (chessSearch b g maxDepth clock stopAtPoll false tt0).best = some m ∧
         absMove m ∈ Rules.legalMoves (abs b) ∧
         Rules.isCheckmate (Rules.apply (abs b) (absMove m)) = true := by
  obtain ⟨m, hb, hmates⟩ := mate_in_one_answered (goEnv b g clock stopAtPoll false) chessGame b maxDepth tt0 hc rfl
    (C09.chess_eval_bounded b hl.wf hp) hk hK hD (chess_orderScoresOK b) ((chess_hasMateInOne_iff b hl).2 hex) hinv hdone
  have hmem : m ∈ b.legalMovesPure := hmates.1
  exact ⟨m, hb, chess_model_move_is_spec_move b hl m hmem, (chess_mates_iff b hl m hmem).mp hmates⟩

end RCE.Props.C12

#print axioms RCE.Props.C12.chess_mates_iff
#print axioms RCE.Props.C12.chess_mate_in_one_by_the_rules
