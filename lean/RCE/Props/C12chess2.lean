import RCE.Props.C12chess
/-! # C12, the chess instance end to end — second and third completeness clauses under the rules of chess

`C12chess.lean` carries the first completeness clause (a mate in one is played) to the rules spec.  This file does the
same for the other two: an avoidable mate in one is avoided (`chess_avoidable_mate_by_the_rules`) and a mate in two is
kept (`chess_mate_in_two_by_the_rules`).  The case distinctions of the abstract theorems (`NoMateInOne`, `Safe`,
`AllowsMateInOne`, `MateInTwoBy`, `Lost`) are read over `Rules.legalMoves` / `Rules.apply` / `Rules.isCheckmate`
through C01 (`legal_exact`, `mate_stalemate_exact`) and C03 (`make_refines`, `make_legal`); the key / draw hypotheses
(`KeyMate`, `PlyKeys`, `MatedKeysFresh2`, `NoDrawAtMate2`, `LineKeys`, `NoDrawBelow3`) stay explicit hypotheses about
`chessGame`. -/
namespace RCE.Props.C12
open RCE RCE.Search RCE.Proofs.SearchDefs RCE.Proofs.SearchMate RCE.Proofs.SearchMateOne RCE.Proofs.Abs RCE.Proofs.BoardWF
open RCE.Proofs.SearchMateAvoid (AllowsMateInOne Safe PlyKeys MatedKeysFresh2 NoDrawAtMate2 AvoidInv)
open RCE.Proofs.SearchMateTwo (MateInTwoBy LineKeys NoDrawBelow3 MateTwoInv)

/-! ## 1. the hypotheses of the abstract theorems, read under the rules -/

/-- `NoMateInOne`: no move that is legal under the rules of chess gives checkmate -/
theorem chess_noMateInOne_iff (b : Board) (hl : Legal b) :
    NoMateInOne chessGame b ↔
    ∀ mv ∈ Rules.legalMoves (abs b), Rules.isCheckmate (Rules.apply (abs b) mv) = false :=
  chess_forall_children b hl (Φ := fun c => ¬ Mated chessGame c) (Ψ := fun q => Rules.isCheckmate q = false)
    fun c hc => by rw [chess_mated_iff c hc, Bool.not_eq_true]

/-- under the rules: after `mv` the opponent has a legal move that gives checkmate -/
def SpecAllowsMateInOne (p : Rules.Pos) (mv : Rules.Move) : Prop :=
  ∃ r ∈ Rules.legalMoves (Rules.apply p mv), Rules.isCheckmate (Rules.apply (Rules.apply p mv) r) = true

/-- `AllowsMateInOne`: after the move the rules give the opponent a move that checkmates -/
theorem chess_allowsMateInOne_iff (b : Board) (hl : Legal b) (m : Ply) (hm : m ∈ b.legalMovesPure) :
    AllowsMateInOne chessGame b m ↔ SpecAllowsMateInOne (abs b) (absMove m) := by
  obtain ⟨hl', habs⟩ := chess_child b hl m hm
  unfold SpecAllowsMateInOne
  rw [← habs]
  exact chess_hasMateInOne_iff (b.makeMove m) hl'

/-- `Safe`: legal under the rules and not allowing a mate in one under the rules -/
theorem chess_safe_iff (b : Board) (hl : Legal b) (m : Ply) (hm : m ∈ b.legalMovesPure) :
    Safe chessGame b m ↔ ¬ SpecAllowsMateInOne (abs b) (absMove m) := by
  unfold Safe
  rw [chess_allowsMateInOne_iff b hl m hm]
  exact ⟨fun h => h.2, fun h => ⟨hm, h⟩⟩

/-- under the rules: `mv` is the key move of a mate in two — it is legal, the opponent has a legal reply, and after every
    legal reply there is a legal move that gives checkmate -/
def SpecMateInTwoBy (p : Rules.Pos) (mv : Rules.Move) : Prop :=
  mv ∈ Rules.legalMoves p ∧ Rules.legalMoves (Rules.apply p mv) ≠ [] ∧
  ∀ r ∈ Rules.legalMoves (Rules.apply p mv),
    ∃ x ∈ Rules.legalMoves (Rules.apply (Rules.apply p mv) r),
      Rules.isCheckmate (Rules.apply (Rules.apply (Rules.apply p mv) r) x) = true

/-- `MateInTwoBy` is the rules' mate in two -/
theorem chess_mateInTwoBy_iff (b : Board) (hl : Legal b) (m : Ply) (hm : m ∈ b.legalMovesPure) :
    MateInTwoBy chessGame b m ↔ SpecMateInTwoBy (abs b) (absMove m) := by
  obtain ⟨hl', habs⟩ := chess_child b hl m hm
  unfold MateInTwoBy SpecMateInTwoBy
  rw [← habs, ← chess_has_move_iff _ hl', ← chess_forall_children _ hl' (Φ := fun c => ∃ x, Mates chessGame c x)
    (Ψ := fun q => ∃ x ∈ Rules.legalMoves q, Rules.isCheckmate (Rules.apply q x) = true) chess_hasMateInOne_iff]
  exact ⟨fun h => ⟨chess_model_move_is_spec_move b hl m hm, h.2⟩, fun h => ⟨hm, h.2⟩⟩

/-! ## 2. an avoidable mate in one is avoided, under the rules of chess -/

open RCE.Proofs.EvalBound in
/-- in a legal-game position (material within the bound) in which, under the rules of chess, no legal move checkmates at
    once and some legal move does not allow a mate in one: every `go` that completes a 2-ply iteration — under every
    limit, stop point and monotone clock, cache on, from any cache satisfying the invariant — answers with a move that
    is legal under the rules of chess and does not allow a mate in one under the rules of chess (key / draw hypotheses
    as in `avoidable_mate_avoided_partial`) -/
theorem chess_avoidable_mate_by_the_rules (b : Board) (hl : Legal b) (hp : PotentialBounded b) (g : GoLimits)
    (maxDepth : Option Nat) (clock : Nat → Nat) (hc : ∀ i j, i ≤ j → clock i ≤ clock j) (stopAtPoll : Nat)
    (tt0 : Search.Table Ply)
    (hk : KeyMate chessGame) (hP : PlyKeys chessGame b) (hK : MatedKeysFresh2 chessGame b)
    (hD : NoDrawAtMate2 chessGame b) (hinv : AvoidInv chessGame b tt0)
    (hno : ∀ mv ∈ Rules.legalMoves (abs b), Rules.isCheckmate (Rules.apply (abs b) mv) = false)
    (hsafe : ∃ s ∈ Rules.legalMoves (abs b), ¬ SpecAllowsMateInOne (abs b) s)
    (hdone : ∃ i ∈ (chessSearch b g maxDepth clock stopAtPoll false tt0).infos, i.depth ≥ 2) :
    ∃ m, (chessSearch b g maxDepth clock stopAtPoll false tt0).best = some m ∧
         absMove m ∈ Rules.legalMoves (abs b) ∧
         ¬ SpecAllowsMateInOne (abs b) (absMove m) := by
  obtain ⟨s, hs, hsafe⟩ := hsafe
  obtain ⟨s0, hs0, he0⟩ := chess_spec_move_has_model_move b hl s hs
  have hsafe' : ∃ s, Safe chessGame b s :=
    ⟨s0, (chess_safe_iff b hl s0 hs0).mpr (by rw [he0]; exact hsafe)⟩
  obtain ⟨m, hb, hm⟩ := RCE.Proofs.SearchMateAvoid.avoidable_mate_answered (goEnv b g clock stopAtPoll false) chessGame b
    maxDepth tt0 hc rfl (C09.chess_eval_bounded b hl.wf hp) hk hP hK hD ((chess_noMateInOne_iff b hl).mpr hno) hsafe' hinv hdone
  have hmem : m ∈ b.legalMovesPure := hm.1
  exact ⟨m, hb, chess_model_move_is_spec_move b hl m hmem, (chess_safe_iff b hl m hmem).mp hm⟩

/-! ## 3. a mate in two is kept, under the rules of chess -/

open RCE.Proofs.EvalBound in
/-- in a legal-game position (material within the bound) in which, under the rules of chess, no legal move checkmates at
    once and some legal move is the key move of a mate in two: every `go` that completes a 4-ply iteration — under every
    limit, stop point and monotone clock, cache on, from any cache satisfying the invariant — answers with a move that
    is legal under the rules of chess and after which the opponent is forcibly mated (key / draw hypotheses as in
    `mate_in_two_kept_four`).  `chess_lost_by_the_rules` reads `Lost` over the rules spec. -/
theorem chess_mate_in_two_by_the_rules (b : Board) (hl : Legal b) (hp : PotentialBounded b) (g : GoLimits)
    (maxDepth : Option Nat) (clock : Nat → Nat) (hc : ∀ i j, i ≤ j → clock i ≤ clock j) (stopAtPoll : Nat)
    (tt0 : Search.Table Ply)
    (hk : KeyMate chessGame) (hL : LineKeys chessGame b) (hd : NoDrawBelow3 chessGame b)
    (hinv : MateTwoInv chessGame b tt0)
    (hno : ∀ mv ∈ Rules.legalMoves (abs b), Rules.isCheckmate (Rules.apply (abs b) mv) = false)
    (hex : ∃ mv, SpecMateInTwoBy (abs b) mv)
    (hdone : ∃ i ∈ (chessSearch b g maxDepth clock stopAtPoll false tt0).infos, i.depth ≥ 4) :
    ∃ m, (chessSearch b g maxDepth clock stopAtPoll false tt0).best = some m ∧
         m ∈ b.legalMovesPure ∧ absMove m ∈ Rules.legalMoves (abs b) ∧
         Lost chessGame (b.makeMove m) := by
  obtain ⟨mv, hmv⟩ := hex
  obtain ⟨m0, hm0, rfl⟩ := chess_spec_move_has_model_move b hl mv hmv.1
  have hm0 := (chess_mateInTwoBy_iff b hl m0 hm0).mpr hmv
  have he := C09.chess_eval_bounded b hl.wf hp
  obtain ⟨m, hbm, hlost⟩ := (RCE.Proofs.SearchMateTwo.mate_in_two_kept_four (goEnv b g clock stopAtPoll false) chessGame b
    maxDepth tt0 hc he hk ((chess_noMateInOne_iff b hl).mpr hno) hL hd ⟨m0, hm0⟩ hinv hdone).1
  have hb := RCE.Proofs.SearchMateCommon.best_of_bestMove (goEnv b g clock stopAtPoll false) chessGame b maxDepth tt0 m hbm
  -- the move answered is a legal move (C09)
  obtain ⟨m', hb', hm'⟩ := C09.one_legal_bestmove (goEnv b g clock stopAtPoll false) chessGame b maxDepth tt0
    (List.ne_nil_of_mem hm0.1) he (RCE.Proofs.SearchMate.tableScoresOK_of_strict hinv.1.2)
  have hmm : m' = m := by
    rw [hb] at hb'; exact (Option.some.inj hb').symm
  have hmem : m ∈ b.legalMovesPure := hmm ▸ hm'
  exact ⟨m, hb, hmem, chess_model_move_is_spec_move b hl m hmem, hlost⟩

/-! ## `Lost` under the rules: a forced mate of bounded length -/

/-- under the rules: the side to move is checkmated now, or — within `n` further moves of its own — whatever it plays
    (and it has a legal move), the opponent has a legal answer after which it is again in this situation -/
def SpecLost : Nat → Rules.Pos → Prop
  | 0, p => Rules.isCheckmate p = true
  | n + 1, p => Rules.isCheckmate p = true ∨
      (Rules.legalMoves p ≠ [] ∧
       ∀ r ∈ Rules.legalMoves p, ∃ x ∈ Rules.legalMoves (Rules.apply p r), SpecLost n (Rules.apply (Rules.apply p r) x))

/-- under the rules: the side to move has a legal move after which the opponent is `SpecLost n` -/
def SpecWon (n : Nat) (p : Rules.Pos) : Prop := ∃ x ∈ Rules.legalMoves p, SpecLost n (Rules.apply p x)

theorem specLost_succ : ∀ (n : Nat) (p : Rules.Pos), SpecLost n p → SpecLost (n + 1) p
  | 0, _, h => Or.inl h
  | n + 1, p, h => by
    rcases h with h | ⟨h1, h2⟩
    · exact Or.inl h
    · refine Or.inr ⟨h1, fun r hr => ?_⟩
      obtain ⟨x, hx, hxl⟩ := h2 r hr
      exact ⟨x, hx, specLost_succ n _ hxl⟩

theorem specLost_mono {n k : Nat} (hnk : n ≤ k) (p : Rules.Pos) (h : SpecLost n p) : SpecLost k p := by
  induction hnk with
  | refl => exact h
  | step _ ih => exact specLost_succ _ _ ih

theorem specWon_mono {n k : Nat} (hnk : n ≤ k) (p : Rules.Pos) (h : SpecWon n p) : SpecWon k p := by
  obtain ⟨x, hx, hl⟩ := h
  exact ⟨x, hx, specLost_mono hnk _ hl⟩

/-- finitely many bounds have a common one -/
theorem specWon_uniform (p : Rules.Pos) :
    ∀ (l : List Rules.Move), (∀ r ∈ l, ∃ n, SpecWon n (Rules.apply p r)) → ∃ N, ∀ r ∈ l, SpecWon N (Rules.apply p r)
  | [], _ => ⟨0, fun _ h => absurd h List.not_mem_nil⟩
  | a :: l, h => by
    obtain ⟨n1, h1⟩ := h a List.mem_cons_self
    obtain ⟨n2, h2⟩ := specWon_uniform p l (fun r hr => h r (List.mem_cons_of_mem _ hr))
    refine ⟨max n1 n2, fun r hr => ?_⟩
    rcases List.mem_cons.mp hr with rfl | hr
    · exact specWon_mono (Nat.le_max_left _ _) _ h1
    · exact specWon_mono (Nat.le_max_right _ _) _ (h2 r hr)

/-- a move of the model after which the opponent is `SpecLost n`: `SpecWon n` -/
theorem chess_specWon_iff (n : Nat) (c : Board) (hl : Legal c) :
    (∃ x ∈ legalMovesOf chessGame c, SpecLost n (abs (chessGame.play c x))) ↔ SpecWon n (abs c) :=
  chess_exists_child c hl (Φ := fun c' => SpecLost n (abs c')) (Ψ := SpecLost n) fun _ _ => Iff.rfl

/-- **`Lost` under the rules of chess**: if the side to move in a legal-game position is forcibly mated in the search's
    game interface, then it is forcibly mated under the rules of chess, within some bounded number of moves -/
theorem chess_lost_by_the_rules {c : Board} (h : Lost chessGame c) : Legal c → ∃ n, SpecLost n (abs c) :=
  Lost.rec (motive_1 := fun a _ => Legal a → ∃ n, SpecLost n (abs a))
    (motive_2 := fun a _ => Legal a → ∃ n, SpecWon n (abs a))
    (fun {p} hnil hchk hl => ⟨0, (chess_mated_iff p hl).mp ⟨hnil, hchk⟩⟩)
    (fun {p} hne _ ih hl => by
      obtain ⟨N, hN⟩ := specWon_uniform (abs p) _ ((chess_forall_children p hl (Φ := fun c => ∃ n, SpecWon n (abs c))
        (Ψ := fun q => ∃ n, SpecWon n q) fun _ _ => Iff.rfl).1 fun m hm => ih m hm (chess_child p hl m hm).1)
      exact ⟨N + 1, Or.inr ⟨(chess_has_move_iff p hl).mp hne, hN⟩⟩)
    (fun {p} m hm _ ih hl => by
      obtain ⟨n, hn⟩ := ih (chess_child p hl m hm).1
      exact ⟨n, (chess_specWon_iff n p hl).1 ⟨m, hm, hn⟩⟩)
    h

/-- conversely, a bounded forced mate under the rules is a forced mate in the search's game interface -/
theorem chess_lost_of_specLost : ∀ (n : Nat) (c : Board), Legal c → SpecLost n (abs c) → Lost chessGame c
  | 0, c, hl, h => have hm := (chess_mated_iff c hl).mpr h; Lost.mate hm.1 hm.2
  | n + 1, c, hl, h => by
    rcases h with h | ⟨h1, h2⟩
    · have hm := (chess_mated_iff c hl).mpr h
      exact Lost.mate hm.1 hm.2
    · refine Lost.all ((chess_has_move_iff c hl).mpr h1) fun m hm => ?_
      obtain ⟨x, hx, hxl⟩ := (chess_forall_children c hl (Ψ := SpecWon n) (chess_specWon_iff n)).2 h2 m hm
      have hl' := (chess_child c hl m hm).1
      exact Won.some x hx (chess_lost_of_specLost n _ (chess_child _ hl' x hx).1 hxl)

/-- `Lost` in a legal-game position is exactly a bounded forced mate under the rules of chess -/
theorem chess_lost_iff (c : Board) (hl : Legal c) : Lost chessGame c ↔ ∃ n, SpecLost n (abs c) :=
  ⟨fun h => chess_lost_by_the_rules h hl, fun ⟨n, h⟩ => chess_lost_of_specLost n c hl h⟩

open RCE.Proofs.EvalBound in
/-- `chess_mate_in_two_by_the_rules` with the conclusion read under the rules: after the answered move, the opponent is
    forcibly mated under the rules of chess -/
theorem chess_mate_in_two_forced_by_the_rules (b : Board) (hl : Legal b) (hp : PotentialBounded b) (g : GoLimits)
    (maxDepth : Option Nat) (clock : Nat → Nat) (hc : ∀ i j, i ≤ j → clock i ≤ clock j) (stopAtPoll : Nat)
    (tt0 : Search.Table Ply)
    (hk : KeyMate chessGame) (hL : LineKeys chessGame b) (hd : NoDrawBelow3 chessGame b)
    (hinv : MateTwoInv chessGame b tt0)
    (hno : ∀ mv ∈ Rules.legalMoves (abs b), Rules.isCheckmate (Rules.apply (abs b) mv) = false)
    (hex : ∃ mv, SpecMateInTwoBy (abs b) mv)
    (hdone : ∃ i ∈ (chessSearch b g maxDepth clock stopAtPoll false tt0).infos, i.depth ≥ 4) :
    ∃ m, (chessSearch b g maxDepth clock stopAtPoll false tt0).best = some m ∧
         absMove m ∈ Rules.legalMoves (abs b) ∧
         ∃ n, SpecLost n (Rules.apply (abs b) (absMove m)) := by
  obtain ⟨m, hb, hmem, hleg, hlost⟩ :=
    chess_mate_in_two_by_the_rules b hl hp g maxDepth clock hc stopAtPoll tt0 hk hL hd hinv hno hex hdone
  obtain ⟨hl', habs⟩ := chess_child b hl m hmem
  have h := chess_lost_by_the_rules hlost hl'
  rw [habs] at h
  exact ⟨m, hb, hleg, h⟩

end RCE.Props.C12

#print axioms RCE.Props.C12.chess_noMateInOne_iff
#print axioms RCE.Props.C12.chess_allowsMateInOne_iff
#print axioms RCE.Props.C12.chess_safe_iff
#print axioms RCE.Props.C12.chess_mateInTwoBy_iff
#print axioms RCE.Props.C12.chess_avoidable_mate_by_the_rules
#print axioms RCE.Props.C12.chess_mate_in_two_by_the_rules
#print axioms RCE.Props.C12.chess_lost_by_the_rules
#print axioms RCE.Props.C12.chess_lost_iff
#print axioms RCE.Props.C12.chess_mate_in_two_forced_by_the_rules
