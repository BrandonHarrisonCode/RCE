import RCE.Proofs.SearchAbort
/-! # C13 — an interrupted search leaves nothing behind

`Write.afterAbort` records, for every cache insert of a search, whether some abort check of that
search (stop flag found cleared, node budget exhausted, move time or clock budget expired — **not**
the ply cap of 255, which is not an interruption) had already fired when the insert happened.  An
abort inside a node's subtree happens before that node's insert, so "no insert has `afterAbort`"
says that every cached value comes from a completely searched subtree.

The theorems hold for every game, every position, every initial cache, every node budget, every
stop point and every monotone clock. -/
namespace RCE.Props.C13
open RCE.Search RCE.Proofs.SearchDefs RCE.Proofs.SearchAbort

variable {P M : Type} [DecidableEq M]

/-- no cache write of a search happens after the search has been interrupted -/
theorem writes_only_complete (env : Env) (G : Game P M) (p : P) (maxDepth : Option Nat) (tt0 : Table M)
    (hc : MonoClock env) :
    ∀ w ∈ (search env G p maxDepth tt0).st.writes, w.afterAbort = false := by
  have h0 : Inv env ({ tt := tt0 } : St M) := by
    refine ⟨fun h => ?_, fun w hw => ?_⟩
    · exact Bool.noConfusion h
    · exact absurd hw List.not_mem_nil
  have h := (inv_across hc G).iterate p (maxDepth.getD 255) (maxDepth.getD 255) 1 _ [] h0
  exact h.2

/-- once an abort check has fired, no further node is visited (the logical part of "stops promptly"):
    searching any subtree from an aborted state returns the dummy 0 and leaves node counter and cache untouched -/
theorem no_nodes_after_abort (env : Env) (G : Game P M) (fuel : Nat) (p : P) (a b : Int) (depth : Nat) (st : St M)
    (hc : MonoClock env) (hs : Interrupted env st) :
    (ab env G fuel p a b depth st).1 = 0 ∧ (ab env G fuel p a b depth st).2.nodes = st.nodes ∧
    (ab env G fuel p a b depth st).2.tt = st.tt ∧ Interrupted env (ab env G fuel p a b depth st).2 := by
  open RCE.Proofs.SearchUnfold in
  cases fuel with
  | zero => exact ⟨rfl, rfl, rfl, hs⟩
  | succ fuel =>
    rw [ab_of_interrupted env G fuel p a b depth st hc hs]
    have hf := abortCheck_frame env st
    exact ⟨rfl, hf.nodes, hf.tt, hs.mono (abortCheck_le env st)⟩

/-- `Interrupted` really is what an abort check establishes (non-vacuity of the hypothesis above) -/
theorem abortCheck_interrupts (env : Env) (st : St M) (hc : MonoClock env) (hp : st.ply < 255)
    (h : (abortCheck env st).1 = true) : Interrupted env (abortCheck env st).2 :=
  abortCheck_interrupts' env st hp h

end RCE.Props.C13

#print axioms RCE.Props.C13.writes_only_complete
#print axioms RCE.Props.C13.no_nodes_after_abort
#print axioms RCE.Props.C13.abortCheck_interrupts
