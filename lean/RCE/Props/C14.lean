import RCE.Proofs.SearchInfo
import RCE.Proofs.SearchPvNonempty
/-! # C14 — search progress reports are truthful and well-formed

`Result.infos` are the `info` lines in the order printed (time / nps tokens are not modelled: they
depend on the clock). -/
namespace RCE.Props.C14
open RCE.Search RCE.Proofs.SearchDefs RCE.Proofs.SearchInfo

variable {P M : Type} [DecidableEq M]

/-- the reported depths are 1, 2, …, k without gaps or repeats, for every limit / clock / stop point -/
theorem info_depths (env : Env) (G : Game P M) (p : P) (maxDepth : Option Nat) (tt0 : Table M) :
    ∃ k, k ≤ maxDepth.getD 255 ∧ (search env G p maxDepth tt0).infos.map (·.depth) = List.range' 1 k := by
  open RCE.Proofs.SearchUnfold in
  obtain ⟨k, h1, h2, _⟩ := iterate_depths (env := env) (G := G) (I := fun _ => True) p (maxDepth.getD 255)
    (fun _ _ _ => trivial) (maxDepth.getD 255) { tt := tt0 } trivial
  exact ⟨k, h2, h1⟩

/-- a search limited to depth N and nothing else reports every depth 1..N -/
theorem depth_limit_complete (env : Env) (G : Game P M) (p : P) (n : Nat) (tt0 : Table M)
    (hu : Unlimited env) (hn : n ≤ 255) :
    (search env G p (some n) tt0).infos.map (·.depth) = List.range' 1 n :=
  depth_limit_complete' env G p n tt0 hu hn

/-- every principal variation is a sequence of legal moves from the searched position, provided the key
    identifies positions and the initial cache holds generated moves -/
theorem pv_legal (env : Env) (G : Game P M) (p : P) (maxDepth : Option Nat) (tt0 : Table M)
    (hk : KeyMoves G) (ht : TableMovesOK G tt0) :
    ∀ i ∈ (search env G p maxDepth tt0).infos, LegalLine G p i.pv := by
  open RCE.Proofs.SearchUnfold in
  intro i hi
  have hI : ∀ d (st : St M), TableMovesOK G st.tt → TableMovesOK G (abortCheck env (abStart env G p d st)).2.tt :=
    fun d st h => ((kept_across env G).step p d st).moves hk h
  obtain ⟨d, s, _, hs, _, rfl⟩ := (iterate_lines p (maxDepth.getD 255) hI (maxDepth.getD 255) { tt := tt0 } ht).2 i hi
  exact getPv_legal G _ (hI d s hs) d p

/-- every info line reported for a root that has a legal move carries a principal variation with at least one
    move, and that first move is a legal move of the root — for every limit, stop point and monotone clock, whatever
    the initial cache holds (no hypothesis about keys: the root's own entry was written by this very iteration) -/
theorem pv_nonempty (env : Env) (G : Game P M) (p : P) (maxDepth : Option Nat) (tt0 : Table M)
    (hc : MonoClock env) (hl : legalMovesOf G p ≠ []) (he : EvalBoundedFrom G p) (ht : TableScoresOK tt0) :
    ∀ i ∈ (search env G p maxDepth tt0).infos, ∃ m rest, i.pv = m :: rest ∧ m ∈ legalMovesOf G p :=
  fun i hi => (RCE.Proofs.SearchPvNonempty.info_score_shape env G p maxDepth tt0 hc hl he ht i hi).2

/-- every info line reported for a root that has a legal move carries a score — centipawns strictly between the mate
    bands, or a non-zero number of moves to mate whose size is ⌈pv length / 2⌉ — never the empty score -/
theorem info_score_present (env : Env) (G : Game P M) (p : P) (maxDepth : Option Nat) (tt0 : Table M)
    (hc : MonoClock env) (hl : legalMovesOf G p ≠ []) (he : EvalBoundedFrom G p) (ht : TableScoresOK tt0) :
    ∀ i ∈ (search env G p maxDepth tt0).infos,
      (∃ s, i.score = .cp s ∧ MINS + 255 + 1 < s ∧ s < MAXS - 255) ∨
      (∃ n : Int, i.score = .mate n ∧ n ≠ 0 ∧ n.natAbs = (i.pv.length + 1) / 2 ∧ 1 ≤ n.natAbs ∧
        (n = -(((i.pv.length + 1) / 2 : Nat) : Int) ∨ n = (((i.pv.length + 1) / 2 : Nat) : Int))) :=
  RCE.Proofs.SearchInfoScore.info_score_present env G p maxDepth tt0 hc hl he ht

end RCE.Props.C14

#print axioms RCE.Props.C14.info_depths
#print axioms RCE.Props.C14.depth_limit_complete
#print axioms RCE.Props.C14.pv_legal
#print axioms RCE.Props.C14.pv_nonempty
#print axioms RCE.Props.C14.info_score_present
