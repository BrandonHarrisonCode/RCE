import RCE.Props.C14
import RCE.Props.C01
import RCE.Props.C03
import RCE.Props.C09
/-! # C14, the chess instance end to end — every reported principal variation is legal under the rules of chess

`C14.pv_legal` says every `info … pv` line is a line of moves legal in the search's game interface; C01
(`legal_exact`) and C03 (`make_refines`, `make_legal`) carry that, move by move, to the rules spec. -/
namespace RCE.Props.C14
open RCE RCE.Search RCE.Proofs.SearchDefs RCE.Proofs.Abs RCE.Proofs.BoardWF

/-- a line of moves each legal under the rules of chess where it is played -/
def SpecLegalLine : Rules.Pos → List Rules.Move → Prop
  | _, [] => True
  | p, m :: ms => m ∈ Rules.legalMoves p ∧ SpecLegalLine (Rules.apply p m) ms

/-- a line legal in the search's game interface is, move by move, legal under the rules of chess -/
theorem specLegalLine_of_legalLine (pv : List Ply) :
    ∀ b : Board, Legal b → LegalLine chessGame b pv → SpecLegalLine (abs b) (pv.map absMove) := by
  induction pv with
  | nil => intro _ _ _; exact True.intro
  | cons m ms ih =>
    intro b hl h
    have hmem : m ∈ b.legalMovesPure := h.1
    have htail : LegalLine chessGame (b.makeMove m) ms := h.2
    have hgen : m ∈ b.allMoves := C03.legal_is_generated b m hmem
    have h1 := C12.chess_model_move_is_spec_move b hl m hmem
    have h2 := ih (b.makeMove m) (C03.make_legal b m hl hmem) htail
    rw [C03.make_refines b m hl hgen] at h2
    exact ⟨h1, h2⟩

/-- in a legal-game position every principal variation the search reports is a line of moves legal under the rules of
    chess (KeyMoves: equal keys generate equal moves; the initial cache holds generated moves) -/
theorem chess_pv_legal_by_the_rules (b : Board) (hl : Legal b) (g : GoLimits) (maxDepth : Option Nat) (clock : Nat → Nat)
    (stopAtPoll : Nat) (cacheOff : Bool) (tt0 : Search.Table Ply)
    (hk : KeyMoves chessGame) (ht : TableMovesOK chessGame tt0) :
    ∀ i ∈ (chessSearch b g maxDepth clock stopAtPoll cacheOff tt0).infos, SpecLegalLine (abs b) (i.pv.map absMove) := by
  intro i hi
  exact specLegalLine_of_legalLine i.pv b hl
    (pv_legal { limits := g.toLimits b.turn, clock := clock, stopAtPoll := stopAtPoll, cacheOff := cacheOff }
      chessGame b maxDepth tt0 hk ht i hi)

open RCE.Proofs.EvalBound in
/-- in a legal-game position that has a legal move (material within the bound), every info line the search prints —
    under every limit, stop point and monotone clock, from any cache of `i16` scores — has a principal variation
    that starts with a move legal under the rules of chess -/
theorem chess_pv_nonempty (b : Board) (hl : Legal b) (hp : PotentialBounded b) (g : GoLimits) (maxDepth : Option Nat)
    (clock : Nat → Nat) (hc : ∀ i j, i ≤ j → clock i ≤ clock j) (stopAtPoll : Nat) (cacheOff : Bool) (tt0 : Search.Table Ply)
    (hm : b.legalMovesPure ≠ []) (ht : TableScoresOK tt0) :
    ∀ i ∈ (chessSearch b g maxDepth clock stopAtPoll cacheOff tt0).infos,
      ∃ m rest, i.pv = m :: rest ∧ absMove m ∈ Rules.legalMoves (abs b) := by
  intro i hi
  obtain ⟨m, rest, hpv, hmem⟩ := pv_nonempty
    { limits := g.toLimits b.turn, clock := clock, stopAtPoll := stopAtPoll, cacheOff := cacheOff } chessGame b maxDepth tt0
    hc (by rw [C09.chess_legalMovesOf]; exact hm) (C09.chess_eval_bounded b hl.wf hp) ht i hi
  exact ⟨m, rest, hpv, C12.chess_model_move_is_spec_move b hl m hmem⟩

end RCE.Props.C14

#print axioms RCE.Props.C14.chess_pv_nonempty
#print axioms RCE.Props.C14.specLegalLine_of_legalLine
#print axioms RCE.Props.C14.chess_pv_legal_by_the_rules
