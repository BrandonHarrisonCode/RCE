import RCE.Model.Uci
/-! # C15 — no input line can kill or wedge the engine; quit and end-of-input end it

Every slice / index operation of the token parser is modelled as a partial operation whose failure is
the outcome `Parsed.panic`; the command loop stops when a panic outcome occurs (`Session.panicked`).
The theorems are for **all** token lists (any length, any strings) and all sessions (any number of lines).
FEN arguments are assumed valid, as in the property: `FenOK`. -/
namespace RCE.Props.C15
open RCE RCE.Uci

/-- a parse outcome other than a panic of the input thread -/
def NoPanic (p : Parsed) : Prop := ∀ site, p ≠ .panic site

theorem NoPanic.ok (c : Cmd) : NoPanic (.ok c) := fun _ h => nomatch h
theorem NoPanic.rejected (m : String) : NoPanic (.rejected m) := fun _ h => nomatch h
theorem NoPanic.dite {c : Prop} [Decidable c] {a b : Parsed} (ha : NoPanic a) (hb : ¬c → NoPanic b) :
    NoPanic (if c then a else b) := by
  split
  · exact ha
  · exact hb ‹_›
theorem NoPanic.ite {c : Prop} [Decidable c] {a b : Parsed} (ha : NoPanic a) (hb : NoPanic b) :
    NoPanic (if c then a else b) := .dite ha fun _ => hb

/-- the two slice operations succeed inside the list; their failures are the parser's only panic sites -/
theorem sliceFrom?_eq_some {l : List String} {a : Nat} (h : a ≤ l.length) : sliceFrom? l a = some (l.drop a) :=
  if_pos h
theorem slice?_eq_some {l : List String} {a b : Nat} (h : a ≤ b ∧ b ≤ l.length) :
    slice? l a b = some ((l.take b).drop a) :=
  if_pos h

theorem idxOf?_lt {l : List String} {x : String} {i : Nat} (h : l.idxOf? x = some i) : i < l.length :=
  (List.idxOf?_eq_some_iff.mp h).1

theorem parseOption_noPanic (args : List String) : NoPanic (parseOption args) := by
  unfold parseOption
  refine .ite (.rejected _) ?_
  split
  · exact .rejected _
  · rename_i nameIdx hname
    refine .dite (.rejected _) fun hlen => ?_
    cases hv : args.idxOf? "value" with
    | none =>
      simp only [sliceFrom?_eq_some (show nameIdx + 1 ≤ args.length by omega)]
      exact .ite (.rejected _) (.ok _)
    | some idx =>
      have hi := idxOf?_lt hv
      -- `idx ≠ nameIdx`: the token there is "value", not "name"
      have hne : idx ≠ nameIdx := by
        rintro rfl
        have h1 := (List.idxOf?_eq_some_iff.mp hname).2.1
        rw [(List.idxOf?_eq_some_iff.mp hv).2.1] at h1
        exact absurd h1 (by decide)
      by_cases hlt : idx < nameIdx
      · simp only [hlt, if_true]; exact .rejected _
      · simp only [hlt, if_false, show args.length > idx from hi, if_true,
          sliceFrom?_eq_some (show idx + 1 ≤ args.length by omega),
          slice?_eq_some (show nameIdx + 1 ≤ idx ∧ idx ≤ args.length by omega)]
        exact .ite (.rejected _) (.ok _)

theorem positionKind_noPanic {args : List String} {a0 : String} {p : Parsed} (h : positionKind args a0 = .error p) :
    NoPanic p := by
  unfold positionKind at h
  split at h
  · cases h
  · split at h
    · split at h
      · cases h; exact .rejected _
      · rw [slice?_eq_some (by omega)] at h; cases h
    · cases h; exact .rejected _

theorem positionMoves_noPanic {args : List String} {kind : PositionKind} {p : Parsed}
    (h : positionMoves args kind = .error p) : NoPanic p := by
  unfold positionMoves at h
  split at h <;> split at h
  · rw [sliceFrom?_eq_some (by omega)] at h; cases h
  · cases h
  · rw [sliceFrom?_eq_some (by omega)] at h; cases h
  · cases h

theorem parsePosition_noPanic (args : List String) : NoPanic (parsePosition args) := by
  unfold parsePosition
  split
  · exact .rejected _
  · split
    · exact positionKind_noPanic ‹_›
    · split
      · exact positionMoves_noPanic ‹_›
      · exact .ok _

theorem parseGoAux_noPanic (fuel : Nat) (args : List String) (l : GoLimits) : NoPanic (parseGoAux fuel args l) := by
  induction fuel generalizing args l with
  | zero => exact .ok _
  | succ n ih =>
    match args with
    | [] => exact .ok _
    | tok :: rest =>
      have wv (e₁ e₂ : String) (bits : Nat) (set : Nat → GoLimits) :
          NoPanic (match rest with
            | [] => .rejected e₁
            | v :: rest' => match parseUnsigned? bits v with
              | some k => parseGoAux n rest' (set k)
              | none => .rejected e₂) := by
        split
        · exact .rejected _
        · split
          · exact ih _ _
          · exact .rejected _
      exact .ite (ih _ _) <| .ite (wv _ _ _ _) <| .ite (wv _ _ _ _) <| .ite (wv _ _ _ _) <| .ite (wv _ _ _ _) <|
        .ite (wv _ _ _ _) <| .ite (wv _ _ _ _) <| .ite (wv _ _ _ _) <| .ite (.ok _) (.rejected _)

theorem parseCommand_noPanic (args : List String) : NoPanic (parseCommand args) := by
  unfold parseCommand
  split
  · exact .rejected _
  · exact .ite (.ok _) <| .ite (.ok _) <| .ite (.ok _) <| .ite (parseOption_noPanic _) <|
      .ite (parsePosition_noPanic _) <| .ite (parseGoAux_noPanic _ _ _) <| .ite (.ok _) <| .ite (.ok _) (.rejected _)

/-- the token parser never panics, whatever the tokens -/
theorem parse_total (args : List String) (site : String) : parseCommand args ≠ .panic site :=
  parseCommand_noPanic args site

/-- a line whose FEN argument (if it is a `position fen …` command) is accepted by the FEN reader -/
def FenOK (line : String) : Prop :=
  match parseCommand (tokenize line) with
  | .ok (.position (.fen f) _) => (Board.fromFen? f.toList).isSome = true
  | _ => True

theorem stepLine_no_panic (s : Session) (line : String) (hs : s.panicked = none) (hf : FenOK line) :
    (stepLine s line).panicked = none := by
  unfold stepLine
  split
  · exact hs
  · cases hp : parseCommand (tokenize line) with
    | rejected m => simpa using hs
    | panic site => exact absurd hp (parse_total _ _)
    | ok c =>
      cases c with
      | quit => simpa using hs
      | position kind moves =>
        simp only [execute]
        cases kind with
        | startpos =>
          simp only [loadPosition]
          split <;> first | exact hs | simp_all
        | fen f =>
          unfold FenOK at hf
          rw [hp] at hf
          simp only at hf
          simp only [loadPosition]
          cases hb : Board.fromFen? f.toList with
          | none => simp [hb] at hf
          | some b0 => simp only []; split <;> first | exact hs | simp_all
      | _ => simpa [execute] using hs

/-- no session of valid-FEN lines, of any length, makes the loop panic; and the loop has ended when the input has -/
theorem loop_total (lines : List String) (hf : ∀ l ∈ lines, FenOK l) :
    (runSession lines).panicked = none ∧ (runSession lines).exited = true := by
  unfold runSession
  refine ⟨?_, rfl⟩
  simp only []
  have : ∀ (ls : List String) (s : Session), s.panicked = none → (∀ l ∈ ls, FenOK l) → (ls.foldl stepLine s).panicked = none := by
    intro ls
    induction ls with
    | nil => intro s hs _; exact hs
    | cons l ls ih =>
      intro s hs hall
      exact ih _ (stepLine_no_panic s l hs (hall l (by simp))) (fun x hx => hall x (by simp [hx]))
  exact this lines {} rfl hf

/-- wherever the session stands (not yet quit, not panicked), an `isready` line is answered with `readyok` -/
theorem isready_answered (s : Session) (line : String) (he : s.exited = false) (hp : s.panicked = none)
    (hc : parseCommand (tokenize line) = .ok .isready) :
    (stepLine s line).out = s.out ++ ["readyok"] ∧ (stepLine s line).exited = false := by
  unfold stepLine
  simp [he, hp, hc, execute]

/-- `quit` ends the loop: every later line is ignored -/
theorem quit_exits (s : Session) (line : String) (he : s.exited = false) (hp : s.panicked = none)
    (hc : parseCommand (tokenize line) = .ok .quit) (rest : List String) :
    (stepLine s line).exited = true ∧ rest.foldl stepLine (stepLine s line) = stepLine s line := by
  have h1 : (stepLine s line).exited = true := by unfold stepLine; simp [he, hp, hc]
  refine ⟨h1, ?_⟩
  induction rest with
  | nil => rfl
  | cons l ls ih =>
    simp only [List.foldl_cons]
    have : stepLine (stepLine s line) l = stepLine s line := by
      generalize stepLine s line = t at h1
      unfold stepLine
      simp [h1]
    rw [this]; exact ih

/-- non-vacuity: the lines that used to kill the input thread are rejected, not panics -/
example : parseCommand ["go", "wtime"] = .rejected "Failed to parse go command: Missing value in go command!" := by decide
example : parseCommand ["setoption", "name", "value"] = .rejected "No name provided to setoption!" := by decide
example : parseCommand ["setoption", "value", "x", "name", "y"] = .rejected "The value must follow the name in setoption!" := by decide

end RCE.Props.C15

#print axioms RCE.Props.C15.parse_total
#print axioms RCE.Props.C15.loop_total
#print axioms RCE.Props.C15.isready_answered
#print axioms RCE.Props.C15.quit_exits
