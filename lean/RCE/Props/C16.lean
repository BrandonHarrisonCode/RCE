import RCE.Proofs.SearchAbort
/-! # C16 — fixed-depth search from a fresh cache is deterministic

The model is a function, so determinism *of the model* is `rfl`; the content of the property is
non-interference: when no time limit is set, no decision of the search reads the clock, so the
result (best move, score, node count, every cache write, the cache itself) is the same for every
clock — across runs, processes and machine load.  That the implementation *is* this function is
what the correspondence checks (repeated runs, separate processes, under load, bench totals). -/
namespace RCE.Props.C16
open RCE.Search RCE.Proofs.SearchDefs RCE.Proofs.SearchAbort

variable {P M : Type} [DecidableEq M]

/-- with no move time and no clock control the whole result — best move, score, node count, info lines,
    every cache write and the cache itself — is independent of the clock -/
theorem search_clock_indep (env : Env) (G : Game P M) (p : P) (maxDepth : Option Nat) (tt0 : Table M)
    (clock' : Nat → Nat) (h : NoTimeLimit env) :
    search { env with clock := clock' } G p maxDepth tt0 = search env G p maxDepth tt0 :=
  search_congr (abortCheck_clock_indep env clock' h) rfl G p maxDepth tt0

end RCE.Props.C16

#print axioms RCE.Props.C16.search_clock_indep
