import RCE.Props.C16
import RCE.Model.Search
/-! # C16, the bench signature

`bench::bench` (src/bench.rs): every position of a fixed list is searched with `Search::new(board, None)` —
no limits of any kind — to `MAXDEPTH`, each from a cleared cache; the node counts are added up and printed.
The only thing that differs between two runs of the subcommand, on any machine and under any load, is what
the clock reads while each search runs.  `bench_total_clock_indep`: the printed total does not depend on it,
for any list of positions, any depth and any family of clocks (one per position, arbitrary functions). -/
namespace RCE.Props.C16
open RCE RCE.Search RCE.Proofs.SearchDefs

/-- the limits of `Search::new(board, None)` set no time limit -/
theorem noLimits_noTimeLimit (turn : Color) (clock : Nat → Nat) :
    NoTimeLimit { limits := ({} : GoLimits).toLimits turn, clock := clock, stopAtPoll := 0, cacheOff := false } := by
  constructor <;> rfl

/-- one position of the bench: searched without limits from the empty cache -/
def benchNodes (b : Board) (depth : Nat) (clock : Nat → Nat) : Nat :=
  (chessSearch b {} (some depth) clock 0 false {}).st.nodes

/-- the node total `bench` prints: position `i` is searched while the clock reads `clocks i` -/
def benchTotal (boards : List Board) (depth : Nat) (clocks : Nat → Nat → Nat) : Nat :=
  ((List.range boards.length).map fun i => benchNodes (boards.getD i Board.start) depth (clocks i)).sum

/-- every single bench position: the whole result (best move, score, node count) is the same whatever the clock reads -/
theorem bench_result_clock_indep (b : Board) (depth : Nat) (clock clock' : Nat → Nat) :
    chessSearch b {} (some depth) clock' 0 false {} = chessSearch b {} (some depth) clock 0 false {} := by
  unfold chessSearch
  exact search_clock_indep (P := Board) (M := Ply)
    { limits := ({} : GoLimits).toLimits b.turn, clock := clock, stopAtPoll := 0, cacheOff := false }
    chessGame b (some depth) {} clock' (noLimits_noTimeLimit b.turn clock)

theorem benchNodes_clock_indep (b : Board) (depth : Nat) (clock clock' : Nat → Nat) :
    benchNodes b depth clock' = benchNodes b depth clock :=
  congrArg (fun r => r.st.nodes) (bench_result_clock_indep b depth clock clock')

/-- the bench total is the same whatever the clocks read during the run: every run prints the same number -/
theorem bench_total_clock_indep (boards : List Board) (depth : Nat) (clocks clocks' : Nat → Nat → Nat) :
    benchTotal boards depth clocks' = benchTotal boards depth clocks := by
  unfold benchTotal
  congr 1
  apply List.map_congr_left
  intro i _
  exact benchNodes_clock_indep _ _ _ _

end RCE.Props.C16

#print axioms RCE.Props.C16.bench_total_clock_indep
#print axioms RCE.Props.C16.bench_result_clock_indep
