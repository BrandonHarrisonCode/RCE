import RCE.Proofs.EvalSym
/-! # C17 — evaluation is colour-symmetric

For **all** boards (any twelve bitboards, any side to move):
* the evaluation of the colour-mirrored position (ranks flipped, colours and side to move swapped)
  equals the evaluation of the position — with no side condition, because both compute the same
  sequence of saturating `i16` operations on the same piece counts;
* the evaluation with the other side to move is the negation — under `MaterialBounded` (each side's
  material ≤ 32767 centipawns, true of every position with ≤ 16 men a side up to 9 queens …),
  which is needed: `saturation_breaks_antisymmetry` exhibits a board where it fails without it. -/
namespace RCE.Props.C17
open RCE RCE.Proofs.EvalSym

theorem eval_mirror (b : Board) : (mirrorBoard b).evaluate = b.evaluate := by
  unfold Board.evaluate
  have ht : (mirrorBoard b).turn = b.turn.opp := rfl
  simp only [ht, evalLoop_mirror]

theorem eval_swap (b : Board) (h : MaterialBounded b) : (swapTurn b).evaluate = - b.evaluate := by
  have hs : MaterialBounded (swapTurn b) := h
  rw [evaluate_eq_material_diff b h, evaluate_eq_material_diff _ hs]
  have e1 : ∀ c, material (swapTurn b) c = material b c := fun _ => rfl
  have e2 : (swapTurn b).turn = b.turn.opp := rfl
  rw [e1, e1, e2, Proofs.BoardPBB.opp_opp]
  omega

theorem eval_range (b : Board) (h : MaterialBounded b) : -32767 ≤ b.evaluate ∧ b.evaluate ≤ 32767 := by
  have h1 := material_opp_le b h b.turn
  have h2 := material_opp_le b h b.turn.opp
  rw [evaluate_eq_material_diff b h]
  omega

/-- the start position satisfies the hypothesis (non-vacuity) -/
example : MaterialBounded Board.start := by decide +kernel

/-- 36 white queens and a rook against a bare board (32900 cp): `evaluate` saturates at 32767 but the swapped twin gives −32768 -/
theorem saturation_breaks_antisymmetry :
    ∃ b : Board, (swapTurn b).evaluate ≠ - b.evaluate :=
  ⟨satBoard, by decide +kernel⟩

end RCE.Props.C17

#print axioms RCE.Props.C17.eval_mirror
#print axioms RCE.Props.C17.eval_swap
#print axioms RCE.Props.C17.eval_range
#print axioms RCE.Props.C17.saturation_breaks_antisymmetry
