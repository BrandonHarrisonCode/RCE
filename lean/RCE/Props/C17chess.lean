import RCE.Props.C17
import RCE.Proofs.EvalBound
import RCE.Proofs.BoardKey
/-! # C17 for the positions of chess games — the side condition discharged

`eval_swap` needs `MaterialBounded` (each side's material ≤ 32767 cp), and `saturation_breaks_antisymmetry` shows that
it cannot be dropped for arbitrary bitboards.  For the positions a game can reach it always holds: no generated move
increases a side's promote-everything potential, which bounds its material; so from any well-formed position within the
bound — the start position in particular (10,300 a side) — every position reachable by generated moves (a superset of
the legal games) has an antisymmetric and in-range evaluation. -/
namespace RCE.Props.C17
open RCE RCE.Search RCE.Proofs.EvalSym RCE.Proofs.EvalBound RCE.Proofs.BoardWF RCE.Proofs.SearchDefs

/-- every position reachable (by generated moves) from a well-formed position within the potential bound is `MaterialBounded` -/
theorem reachable_material_bounded (b q : Board) (hw : WF b) (hp : PotentialBounded b) (hr : Reach chessGame b q) :
    MaterialBounded q := by
  obtain ⟨-, p1, p2⟩ := reach_inv b hw q hr
  have m1 := material_le_potential q .white
  have m2 := material_le_potential q .black
  have h1 := hp.1
  have h2 := hp.2
  exact ⟨by omega, by omega⟩

/-- … hence its evaluation with the other side to move is the negation, and it is in range -/
theorem eval_swap_reachable (b q : Board) (hw : WF b) (hp : PotentialBounded b) (hr : Reach chessGame b q) :
    (swapTurn q).evaluate = - q.evaluate ∧ -32767 ≤ q.evaluate ∧ q.evaluate ≤ 32767 :=
  have hb := reachable_material_bounded b q hw hp hr
  ⟨eval_swap q hb, eval_range q hb⟩

/-- in particular every position of every game from the start position -/
theorem eval_swap_in_every_game (q : Board) (hr : Reach chessGame Board.start q) :
    (swapTurn q).evaluate = - q.evaluate ∧ (mirrorBoard q).evaluate = q.evaluate :=
  ⟨(eval_swap_reachable Board.start q RCE.Proofs.BoardKey.start_ok'.2 start_potentialBounded hr).1, eval_mirror q⟩

end RCE.Props.C17

#print axioms RCE.Props.C17.reachable_material_bounded
#print axioms RCE.Props.C17.eval_swap_reachable
#print axioms RCE.Props.C17.eval_swap_in_every_game
